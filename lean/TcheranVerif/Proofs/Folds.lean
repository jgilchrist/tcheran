import TcheranVerif.Proofs.Bits
/-!
# Folds of a commutative operation, with point updates

One statement (`foldl_point`) about `l.foldl (fun a s => op a (f s)) e` for an associative, commutative
`op`; `xsum` (XOR on `BB`, C03) and `isum` (`+` on `Int`, C15) over lists of squares are its two instances;
`foldl_op_init` also serves `setOf` (`|||`, `Proofs/Attacks.lean`).
-/

namespace Tcheran

section generic
variable {α β : Type} (op : β → β → β) (hA : ∀ a b c, op (op a b) c = op a (op b c)) (hC : ∀ a b, op a b = op b a)
include hA hC

theorem foldl_op_init (l : List α) (f : α → β) (e y : β) :
    l.foldl (fun a s => op a (f s)) (op e y) = op (l.foldl (fun a s => op a (f s)) e) y := by
  induction l generalizing e with
  | nil => rfl
  | cons x xs ih =>
    simp only [List.foldl_cons]
    rw [hA, hC y, ← hA, ih]

omit hA hC in
theorem foldl_op_congr (l : List α) (f g : α → β) (h : ∀ s ∈ l, g s = f s) (e : β) :
    l.foldl (fun a s => op a (g s)) e = l.foldl (fun a s => op a (f s)) e :=
  List.foldl_rel (r := Eq) rfl fun s hs _ _ hc => by rw [hc, h s hs]

/-- stated without an inverse of `op`; `xsum_update` and `isum_update` are the cancelled forms -/
theorem foldl_point [DecidableEq α] (l : List α) (hn : l.Nodup) (f g : α → β) (s0 : α) (hin : s0 ∈ l)
    (hd : ∀ s, s ≠ s0 → g s = f s) (e : β) :
    op (l.foldl (fun a s => op a (g s)) e) (f s0) = op (l.foldl (fun a s => op a (f s)) e) (g s0) := by
  induction l generalizing e with
  | nil => cases hin
  | cons x xs ih =>
    have hn' := List.nodup_cons.1 hn
    simp only [List.foldl_cons]
    by_cases hx : x = s0
    · subst hx
      rw [foldl_op_congr op xs f g (fun s hs => hd s (fun e => hn'.1 (e ▸ hs))),
        foldl_op_init op hA hC, foldl_op_init op hA hC, hA, hC (g x), ← hA]
    · rw [hd x hx]
      exact ih hn'.2 ((List.mem_cons.1 hin).resolve_left (Ne.symm hx)) _

end generic

def xsum (l : List Sq) (f : Sq → BB) : BB := l.foldl (fun h s => h ^^^ f s) 0#64

theorem foldl_xor_init (l : List Sq) (f : Sq → BB) (h0 : BB) :
    l.foldl (fun h s => h ^^^ f s) h0 = h0 ^^^ xsum l f := by
  have := foldl_op_init (· ^^^ ·) BitVec.xor_assoc BitVec.xor_comm l f 0#64 h0
  simp only [BitVec.zero_xor] at this
  rw [this, BitVec.xor_comm]; rfl

theorem xsum_nil (f : Sq → BB) : xsum [] f = 0#64 := rfl

theorem xsum_cons (x : Sq) (xs : List Sq) (f : Sq → BB) : xsum (x :: xs) f = f x ^^^ xsum xs f := by
  unfold xsum
  rw [List.foldl_cons, BitVec.zero_xor]
  exact foldl_xor_init xs f (f x)

theorem xsum_zero (l : List Sq) : xsum l (fun _ => 0#64) = 0#64 := by
  induction l with
  | nil => rfl
  | cons x xs ih => rw [xsum_cons, ih, BitVec.xor_zero]

theorem xsum_congr (l : List Sq) (f g : Sq → BB) (h : ∀ s ∈ l, f s = g s) : xsum l f = xsum l g :=
  foldl_op_congr _ l g f h _

theorem xsum_xor (l : List Sq) (f g : Sq → BB) :
    xsum l (fun s => f s ^^^ g s) = xsum l f ^^^ xsum l g := by
  induction l with
  | nil => exact BitVec.xor_zero.symm
  | cons x xs ih =>
    rw [xsum_cons, xsum_cons, xsum_cons, ih]
    ac_rfl

theorem foldl_xor_toList (B : BB) (f : Sq → BB) (h0 : BB) :
    (BB.toList B).foldl (fun h s => h ^^^ f s) h0
      = h0 ^^^ xsum (List.finRange 64) (fun s => if mem B s then f s else 0#64) := by
  rw [BB.toList, List.foldl_filter, ← foldl_xor_init]
  exact List.foldl_rel (r := Eq) rfl fun s _ _ h hc => by rw [hc]; split <;> simp

theorem xsum_update (l : List Sq) (hn : l.Nodup) (f g : Sq → BB) (s0 : Sq) (hin : s0 ∈ l)
    (hd : ∀ s, s ≠ s0 → g s = f s) : xsum l g = xsum l f ^^^ g s0 ^^^ f s0 := by
  have := foldl_point (· ^^^ ·) BitVec.xor_assoc BitVec.xor_comm l hn f g s0 hin hd 0#64
  unfold xsum
  rw [← this, BitVec.xor_assoc, BitVec.xor_self, BitVec.xor_zero]

def isum (l : List Sq) (f : Sq → Int) : Int := l.foldl (fun a s => a + f s) 0

theorem foldl_add_init (l : List Sq) (f : Sq → Int) (a0 : Int) :
    l.foldl (fun a s => a + f s) a0 = a0 + isum l f := by
  have := foldl_op_init (· + ·) Int.add_assoc Int.add_comm l f 0 a0
  simp only [Int.zero_add] at this
  rw [this, Int.add_comm]; rfl

theorem isum_cons (x : Sq) (xs : List Sq) (f : Sq → Int) : isum (x :: xs) f = f x + isum xs f := by
  unfold isum
  rw [List.foldl_cons, Int.zero_add]
  exact foldl_add_init xs f (f x)

theorem isum_update (l : List Sq) (hn : l.Nodup) (f g : Sq → Int) (s0 : Sq) (hin : s0 ∈ l)
    (hd : ∀ s, s ≠ s0 → g s = f s) : isum l g = isum l f + g s0 - f s0 := by
  have := foldl_point (· + ·) Int.add_assoc Int.add_comm l hn f g s0 hin hd 0
  unfold isum
  omega

end Tcheran
