/-!
# Facts about lists and arrays that mention nothing of the model

What several layers need and the library does not state in this form.
-/

namespace Tcheran

theorem find?_unique {α} {l : List α} {p : α → Bool} {a : α} (ha : a ∈ l) (hp : p a = true)
    (hu : ∀ x ∈ l, p x = true → x = a) : l.find? p = some a := by
  cases hf : l.find? p with
  | none => exact absurd hp (List.find?_eq_none.1 hf a ha)
  | some x => rw [hu x (List.mem_of_find?_eq_some hf) (List.find?_some hf)]

theorem filter_singleton_of_unique {α} (l : List α) (p : α → Bool) (a : α) (hn : l.Nodup) (ha : a ∈ l)
    (hp : p a = true) (hu : ∀ x ∈ l, p x = true → x = a) : l.filter p = [a] := by
  have hm : a ∈ l.filter p := List.mem_filter.2 ⟨ha, hp⟩
  have hall : ∀ x ∈ l.filter p, x = a := fun x hx => hu x (List.mem_filter.1 hx).1 (List.mem_filter.1 hx).2
  have hnd : (l.filter p).Nodup := hn.filter p
  generalize l.filter p = f at hm hall hnd
  match f with
  | [] => cases hm
  | [x] => rw [hall x List.mem_cons_self]
  | x :: y :: _ =>
    have hxy : x = y := (hall x List.mem_cons_self).trans (hall y (List.mem_cons_of_mem _ List.mem_cons_self)).symm
    exact absurd (hxy ▸ List.mem_cons_self) (List.nodup_cons.1 hnd).1

theorem flatMap_single {α β} {l : List α} {f : α → List β} {a : α} (hnd : l.Nodup) (ha : a ∈ l)
    (h : ∀ b ∈ l, b ≠ a → f b = []) : l.flatMap f = f a := by
  induction l with
  | nil => cases ha
  | cons x xs ih =>
    rw [List.flatMap_cons]
    rw [List.nodup_cons] at hnd
    rcases List.mem_cons.1 ha with rfl | hxs
    · have : xs.flatMap f = [] := by
        rw [List.flatMap_eq_nil_iff]
        exact fun b hb => h b (List.mem_cons_of_mem _ hb) (fun e => hnd.1 (e ▸ hb))
      rw [this, List.append_nil]
    · rw [h x List.mem_cons_self (fun e => hnd.1 (e ▸ hxs)), List.nil_append]
      exact ih hnd.2 hxs (fun b hb => h b (List.mem_cons_of_mem _ hb))

theorem mapM_some_of_forall {α β} (l : List α) (f : α → Option β) (g : α → β)
    (h : ∀ x ∈ l, f x = some (g x)) : l.mapM f = some (l.map g) := by
  induction l with
  | nil => rfl
  | cons x xs ih =>
    rw [List.mapM_cons, h x List.mem_cons_self, ih (fun y hy => h y (List.mem_cons_of_mem _ hy))]
    rfl

theorem getD_ofFn {α} (n : Nat) (f : Fin n → α) (i : Fin n) (d : α) :
    (Array.ofFn f).getD i.val d = f i := by
  simp [Array.getD, i.isLt]

theorem nodup_map_key {α β κ} (l : List α) (f : α → β) (key : β → κ) (k : α → κ)
    (hk : ∀ x ∈ l, key (f x) = k x) (hinj : ∀ x ∈ l, ∀ y ∈ l, k x = k y → x = y) (h : l.Nodup) :
    (l.map f).Nodup :=
  List.pairwise_map.2 (h.imp_of_mem fun ha hb hne e => hne (hinj _ ha _ hb (by rw [← hk _ ha, ← hk _ hb, e])))

theorem nodup_flatten_keyed {β} (cls : β → Nat) (st : List (Nat × List β)) (hkeys : (st.map Prod.fst).Nodup)
    (hst : ∀ p ∈ st, p.2.Nodup ∧ ∀ m ∈ p.2, cls m = p.1) : (st.map Prod.snd).flatten.Nodup :=
  List.pairwise_flatten.2 ⟨fun l hl => by
      obtain ⟨p, hp, rfl⟩ := List.mem_map.1 hl
      exact (hst p hp).1,
    List.pairwise_map.2 ((List.pairwise_map.1 hkeys).imp_of_mem fun hp hq hne x hx y hy e =>
      hne (by rw [← (hst _ hp).2 x hx, ← (hst _ hq).2 y hy, e]))⟩

theorem append_congr {α} {a a' b b' : List α} (h1 : a = a') (h2 : b = b') : a ++ b = a' ++ b' := h1 ▸ h2 ▸ rfl

theorem mem_if_append {c : Prop} [Decidable c] {α} (A B : List α) (m : α) :
    m ∈ (if c then A ++ B else []) ↔ (m ∈ (if c then A else []) ∨ m ∈ (if c then B else [])) := by
  by_cases h : c
  · simp [h]
  · simp [h]

theorem getD_mem {α : Type} (tbl : Array α) (i : Nat) (d : α) : tbl.getD i d ∈ d :: tbl.toList := by
  rw [Array.getD_eq_getD_getElem?]
  cases hv : tbl[i]? with
  | none => exact List.mem_cons_self
  | some v => exact List.mem_cons_of_mem _ (Array.mem_def.1 (Array.mem_of_getElem? hv))

theorem foldl_counted {σ α : Type} (P : Nat → σ → Prop) (f : σ → α → σ)
    (step : ∀ n st x, P n st → P (n + 1) (f st x)) (l : List α) (n : Nat) (st : σ) (h : P n st) :
    P (n + l.length) (l.foldl f st) := by
  induction l generalizing n st with
  | nil => exact h
  | cons x xs ih =>
    rw [List.foldl_cons, List.length_cons, ← Nat.add_assoc, Nat.add_right_comm]
    exact ih _ _ (step n st x h)

end Tcheran
