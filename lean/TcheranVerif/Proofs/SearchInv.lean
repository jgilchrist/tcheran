import TcheranVerif.Model.Search
/-!
# One induction over the search

The induction over the fuel of `negamax` (outer) and of its move loop (inner) is done once, for an abstract
invariant. `CtxInv`: `C` holds of the context while the search runs, `A` once it has aborted; only a consultation of
the flag leads from one to the other (`poll`), every other step leaves alone the fields `frame` asks about.
`SearchInv` adds which nodes (`N`, by distance from the root), moves (`M`), lines (`L`) and picker states (`S`) are
accepted, with one law for each place where the body of `negamax` or of `search` makes one of them or writes the
table. Every function `f` of the model has its lemma `SearchInv.f`: from `C` of the context and `L` of the PV buffer
handed in to `Post` of result and context and `L` of the PV buffer handed back.
The four predicates are not fixed to legality: the stop discipline (`stopInv`) holds from every position, where the
picker laws of the legality instance (`soundInv`, both in `Proofs/SearchSound.lean`) fail, so its instance has to
accept everything (`SearchInv.ofCtx`).
-/

namespace Tcheran
namespace Search
open Game

structure CtxInv where
  C : Ctx → Prop
  A : Ctx → Prop
  poll : ∀ c, C c → if (Search.poll c).2 = true then A (Search.poll c).1 else C (Search.poll c).1
  frame : ∀ c c' : Ctx, C c → c'.tt = c.tt → c'.polls = c.polls → c'.stopAt = c.stopAt →
    c'.stoppedNodes = c.stoppedNodes → C c'

def CtxInv.Post (I : CtxInv) {α} (res : Res α) (c : Ctx) : Prop :=
  match res with
  | .abort => I.A c
  | _ => I.C c

/-- the context a whole search ends with: `search.iter` does not hand up whether it was aborted -/
def CtxInv.Q (I : CtxInv) (c : Ctx) : Prop := I.C c ∨ I.A c

theorem CtxInv.post_of_eq (I : CtxInv) {α} {x : Res α × Ctx} {r : Res α} {c' : Ctx} (hq : x = (r, c'))
    (h : I.Post x.1 x.2) : I.Post r c' := by rw [hq] at h; exact h

theorem CtxInv.shouldStop (I : CtxInv) (c : Ctx) (h : I.C c) :
    if (Search.shouldStop c).2 = true then I.A (Search.shouldStop c).1 else I.C (Search.shouldStop c).1 := by
  unfold Search.shouldStop
  split
  rename_i c1 early he
  have h1 : if early = true then I.A c1 else I.C c1 := by
    split at he
    · have := I.poll c h; rw [he] at this; exact this
    · cases he; exact h
  split
  · rename_i hs; rw [if_pos hs] at h1; exact h1
  rename_i hs
  rw [if_neg hs] at h1
  split
  · exact h1
  have h2 := I.poll c1 h1
  split
  rename_i c2 stop he2
  rw [he2] at h2
  split
  · rename_i hst; rw [if_pos hst] at h2; exact h2
  · rename_i hst; rw [if_neg hst] at h2; exact I.frame _ _ h2 rfl rfl rfl rfl

theorem CtxInv.shouldStart (I : CtxInv) (c : Ctx) (d : Nat) (h : I.C c) :
    if (shouldStartNewSearch c d).2 = true then I.C (shouldStartNewSearch c d).1
    else I.A (shouldStartNewSearch c d).1 := by
  unfold shouldStartNewSearch
  have hp := I.poll c h
  split
  · exact h
  · by_cases hs : (Search.poll c).2 = true
    · rw [if_pos hs] at hp; simp only [hs]; exact hp
    · rw [if_neg hs] at hp; simp only [hs]; exact hp

/-! ### quiescence touches the context only through the oracle and the counters -/

theorem CtxInv.qloop (I : CtxInv) (fuel : Nat)
    (ih : ∀ g a b p c, I.C c → I.Post (quiescence fuel g a b p c).1 (quiescence fuel g a b p c).2)
    {g : Game} {beta : Int} {plies : Nat} {nm : NodeMoves} :
    ∀ lf {st alpha best c}, I.C c →
      I.Post (quiescence.loop fuel g beta plies nm lf st alpha best c).1
        (quiescence.loop fuel g beta plies nm lf st alpha best c).2 := by
  intro lf
  induction lf with
  | zero => intro st alpha best c h; rw [quiescence.loop.eq_1]; exact h
  | succ n ihn =>
    intro st alpha best c h
    rw [quiescence.loop.eq_2]
    split                                          -- the picker is exhausted
    · exact h
    split                                          -- `make_move` refuses
    · exact h
    split                                          -- the child answers, or aborts or panics
    · rename_i v c' hq
      have hc' : I.C c' := I.post_of_eq hq (ih _ _ _ _ c h)
      extract_lets score best'
      split                                        -- beta cut-off
      · exact hc'
      · exact ihn hc'
    · rename_i r c' _ hq
      exact I.post_of_eq hq (ih _ _ _ _ c h)

theorem CtxInv.quiescence (I : CtxInv) : ∀ fuel g a b p c, I.C c →
    I.Post (quiescence fuel g a b p c).1 (quiescence fuel g a b p c).2 := by
  intro fuel
  induction fuel with
  | zero => intro g a b p c h; rw [quiescence.eq_def]; exact h
  | succ n ih =>
    intro g a b p c h
    rw [quiescence.eq_def]
    simp only
    have h0 : I.C { c with seldepth := max c.seldepth p, nodes := c.nodes + 1 } := I.frame c _ h rfl rfl rfl rfl
    have hs := I.shouldStop _ h0
    generalize Search.shouldStop { c with seldepth := max c.seldepth p, nodes := c.nodes + 1 } = ss at hs ⊢
    obtain ⟨c1, stop⟩ := ss
    simp only at hs ⊢
    split                                          -- the ply limit: static evaluation or its panic
    · split <;> exact h0
    split                                          -- the generator panics in the fifty-move test
    · exact h0
    split                                          -- draw
    · exact h0
    split                                          -- stopped
    · rename_i hst; rw [if_pos hst] at hs; exact hs
    rename_i hst
    rw [if_neg hst] at hs
    split                                          -- no evaluation
    · exact hs
    split                                          -- stand pat
    · exact hs
    split                                          -- the generator panics
    · exact hs
    exact I.qloop n ih _ hs

structure SearchInv extends CtxInv where
  N : Nat → Game → Prop
  M : Game → Move → Prop
  L : Game → List Move → Prop
  S : Game → NodeMoves → Picker.State → Prop
  nil : ∀ g, L g []
  cons : ∀ g g' m rest, M g m → makeMove theCfg g m = some g' → L g' rest → L g (m :: rest)
  head : ∀ g m rest, L g (m :: rest) → M g m
  step : ∀ p g m g', N p g → M g m → makeMove theCfg g m = some g' → N (p + 1) g'
  null : ∀ p g, N p g → kingInCheck g.board g.player = some false → N (p + 1) (makeNull theCfg g)
  probe : ∀ p g c d m, N p g → C c → c.tt.get g.zobrist = some d → d.best = some m → M g m
  fresh : ∀ p g nm hash, N p g → nodeMoves g = some nm → (∀ h, hash = some h → M g h) → S g nm (Picker.new hash)
  pick : ∀ p g nm st c mv st', N p g → nodeMoves g = some nm → S g nm st →
    Picker.next (pickerEnv g nm c p) st = (some mv, st') → M g mv ∧ S g nm st'
  insert : ∀ p g c d, N p g → C c → (∀ m, d.best = some m → M g m) → C { c with tt := c.tt.insert g.zobrist d }

def SearchInv.ofCtx (J : CtxInv) (hins : ∀ c tt, J.C c → J.C { c with tt := tt }) : SearchInv :=
  { J with
    N := fun _ _ => True, M := fun _ _ => True, L := fun _ _ => True, S := fun _ _ _ => True
    nil := fun _ => trivial, cons := fun _ _ _ _ _ _ _ => trivial, head := fun _ _ _ _ => trivial
    step := fun _ _ _ _ _ _ _ => trivial, null := fun _ _ _ _ => trivial
    probe := fun _ _ _ _ _ _ _ _ _ => trivial, fresh := fun _ _ _ _ _ _ _ => trivial
    pick := fun _ _ _ _ _ _ _ _ _ _ _ => ⟨trivial, trivial⟩
    insert := fun _ _ c _ _ h _ => hins c _ h }

namespace SearchInv
variable (I : SearchInv)

def NPost (g : Game) (out : NodeOut) : Prop := I.Post out.res out.ctx ∧ I.L g out.pv

theorem pvsChild (g' : Game) (search : Int → Int → Nat → List Move → Ctx → NodeOut)
    (hs : ∀ a b d pv c, I.C c → I.L g' pv → I.NPost g' (search a b d pv c))
    (alpha beta : Int) (depth count : Nat) (inCheck : Bool) (c : Ctx) (h : I.C c) :
    I.NPost g' (pvsChild search alpha beta depth count inCheck c) := by
  -- the `let`s stay local definitions (`extract_lets`; `clear_value` before one is split on), here and in `nloop`
  -- and `negamax`: `simp only` would copy the context into every branch and make every later `split` dear
  unfold Search.pvsChild
  extract_lets full r r' reduction zw
  have hz : I.NPost g' zw := hs _ _ _ _ _ h (I.nil g')
  clear_value zw
  split                                            -- the first move: full window
  · exact hs _ _ _ _ _ h (I.nil g')
  split                                            -- the zero-window probe answers, or aborts or panics
  · rename_i v hv
    have hc := hz.1
    rw [hv] at hc
    extract_lets s
    split                                          -- inside the window: full re-search
    · exact hs _ _ _ _ _ hc hz.2
    · exact hz
  · exact hz

def NullPost (g : Game) (r : Option NodeOut × Ctx) : Prop :=
  match r.1 with
  | some out => I.NPost g out
  | none => I.C r.2

theorem nullMovePhase (g : Game) (child : Ctx → NodeOut) (doNull : Bool)
    (hch : doNull = true → ∀ c, I.C c → I.Post (child c).res (child c).ctx) (beta : Int) (pv : List Move) (c : Ctx)
    (h : I.C c) (hpv : I.L g pv) : I.NullPost g (nullMovePhase child doNull beta pv c) := by
  unfold Search.nullMovePhase
  split
  · rename_i hd
    have := hch hd c h
    simp only
    split
    · rename_i v hv
      rw [hv] at this
      split
      · exact ⟨this, hpv⟩
      · exact this
    · exact ⟨this, hpv⟩
  · exact h

theorem finishNode (g : Game) (depth plies : Nat) (inCheck : Bool) (bound : TT.Bound)
    (bestMove : Option Move) (bestEval : Int) (count : Nat) (pv : List Move) (c : Ctx) (hN : I.N plies g)
    (h : I.C c) (hpv : I.L g pv) (hb : ∀ m, bestMove = some m → I.M g m) :
    I.NPost g (finishNode g depth plies inCheck bound bestMove bestEval count pv c) := by
  unfold Search.finishNode
  split
  · exact ⟨h, hpv⟩
  · simp only
    split
    · exact ⟨h, hpv⟩
    · rename_i c' hupd
      have hc' : I.C c' := by
        split at hupd
        · split at hupd
          · cases hupd
          · split at hupd
            · split at hupd
              · cases hupd
              · cases hupd; exact I.frame c _ h rfl rfl rfl rfl
            · cases hupd; exact h
        · cases hupd; exact h
      exact ⟨I.insert plies g c' _ hN hc' hb, hpv⟩

def LPost (g : Game) (r : Res (TT.Bound × Option Move × Int × Nat) × List Move × Ctx) : Prop :=
  I.Post r.1 r.2.2 ∧ I.L g r.2.1 ∧
    match r.1 with
    | .ok (_, bestMove, _, _) => ∀ m, bestMove = some m → I.M g m
    | _ => True

theorem nloop (fuel : Nat)
    (ih : ∀ g a b d p pv c, I.N p g → I.C c → I.L g pv → I.NPost g (negamax fuel g a b d p pv c))
    (g : Game) (alpha0 beta : Int) (plies : Nat) (inCheck : Bool) (depth : Nat) (ev : Int) (nm : NodeMoves)
    (hN : I.N plies g) (hnm : nodeMoves g = some nm) :
    ∀ lf st alpha bound bestMove bestEval count pv c, I.S g nm st → I.C c → I.L g pv →
      (∀ m, bestMove = some m → I.M g m) →
      I.LPost g (negamax.loop fuel g alpha0 beta plies inCheck depth ev nm lf st alpha bound bestMove bestEval count pv c) := by
  intro lf
  induction lf with
  | zero =>
    intro st alpha bound bestMove bestEval count pv c hS h hpv hb
    rw [negamax.loop.eq_1]
    exact ⟨h, hpv, trivial⟩
  | succ n ihn =>
    intro st alpha bound bestMove bestEval count pv c hS h hpv hb
    rw [negamax.loop.eq_2]
    split                                          -- the picker is exhausted
    · exact ⟨h, hpv, hb⟩
    rename_i mv st' hnext
    obtain ⟨hmv, hS'⟩ := I.pick plies g nm st c mv st' hN hnm hS hnext
    split                                          -- futility: the move is skipped
    · exact ihn st' alpha bound bestMove bestEval count pv c hS' h hpv hb
    split                                          -- `make_move` refuses
    · exact ⟨h, hpv, trivial⟩
    rename_i g' hmake
    have hN' : I.N (plies + 1) g' := I.step plies g mv g' hN hmv hmake
    extract_lets count' out c'
    obtain ⟨ho1, ho2⟩ : I.NPost g' out := I.pvsChild g' _ (fun a b d pv c => ih g' a b d (plies + 1) pv c hN') _ _ _ _ _ c h
    clear_value out
    split                                          -- the child answers, aborts or panics
    · rename_i v hres
      rw [hres] at ho1
      extract_lets score
      split
      rename_i bm be hbb
      have hb' : ∀ m, bm = some m → I.M g m := by
        intro m hm
        split at hbb <;> cases hbb
        · cases hm; exact hmv
        · exact hb m hm
      split                                        -- beta cut-off
      · exact ⟨ho1, hpv, hb'⟩
      split                                        -- alpha raised: the move heads the new line
      · split                                      -- which does not fit the PV buffer
        · exact ⟨ho1, hpv, trivial⟩
        · exact ihn st' _ _ bm be _ _ c' hS' ho1 (I.cons g g' mv out.pv hmv hmake ho2) hb'
      · exact ihn st' _ _ bm be _ _ c' hS' ho1 hpv hb'
    · rename_i hres; rw [hres] at ho1; exact ⟨ho1, hpv, trivial⟩
    · rename_i w hres; rw [hres] at ho1; exact ⟨ho1, hpv, trivial⟩

theorem negamax : ∀ fuel g a b d p pv c, I.N p g → I.C c → I.L g pv →
    I.NPost g (negamax fuel g a b d p pv c) := by
  intro fuel
  induction fuel with
  | zero => intro g a b d p pv c hN h hpv; rw [negamax.eq_1]; exact ⟨h, hpv⟩
  | succ n ih =>
    intro g a b d p pv c hN h hpv
    rw [negamax.eq_2]
    extract_lets isPv
    -- the first two tests and the pair between them are taken apart by hand: `split` simplifies the whole body
    -- below the test it splits, and up here that is all of `negamax`
    by_cases hb : (!inI16 (b - 1)) = true          -- `beta - 1` overflows
    · rw [if_pos hb]
      exact ⟨h, hpv⟩
    rw [if_neg hb]
    have hs := I.shouldStop c h
    rcases hss : Search.shouldStop c with ⟨c1, stop⟩
    rw [hss] at hs
    show I.NPost g (if stop = true then _ else _)
    by_cases hst : stop = true                     -- stopped
    · rw [if_pos hst] at hs ⊢
      exact ⟨hs, hpv⟩
    rw [if_neg hst] at hs ⊢
    extract_lets c2 c3 ttEntry prevBest
    have h2 : I.C c2 := I.frame c1 c2 hs rfl rfl rfl rfl
    have h3 : I.C c3 := by
      show I.C (if _ then _ else _)
      split
      · exact I.frame c2 _ h2 rfl rfl rfl rfl
      · exact h2
    split                                          -- the generator panics in the fifty-move test
    · exact ⟨h2, hpv⟩
    split                                          -- draw
    · exact ⟨h2, hpv⟩
    split                                          -- no king
    · exact ⟨h2, hpv⟩
    rename_i inCheck hchk
    extract_lets d' ttCut prunable
    clear_value ttCut
    split                                          -- depth 0: quiescence
    · split
      rename_i r c' hq
      exact ⟨I.post_of_eq hq (I.quiescence _ _ _ _ _ _ h2), hpv⟩
    split                                          -- table cut-off
    · exact ⟨h3, hpv⟩
    split                                          -- no evaluation
    · exact ⟨h3, hpv⟩
    rename_i ev hev
    extract_lets rfpVal doNull
    split                                          -- the reverse-futility margin overflows
    · exact ⟨h3, hpv⟩
    split                                          -- reverse-futility cut
    · exact ⟨h3, hpv⟩
    split
    rename_i earlyOut c4 hnp
    have hnull : I.NullPost g (earlyOut, c4) := hnp ▸ I.nullMovePhase g _ doNull
      (fun hd c hc => by
        have hic : inCheck = false := by
          simp only [doNull, prunable, Bool.and_eq_true, Bool.not_eq_true'] at hd
          exact hd.1.1.1.2
        exact (ih _ _ _ _ _ [] c (I.null p g hN (hic ▸ hchk)) hc (I.nil _)).1)
      b pv c3 h3 hpv
    split                                          -- null-move cut, or the null-move child aborts or panics
    · exact hnull
    have h4 : I.C c4 := hnull
    split                                          -- the generator panics
    · exact ⟨h4, hpv⟩
    rename_i nm hnm
    have hprev : ∀ m, prevBest = some m → I.M g m := fun m hm =>
      have ⟨e, hget, hbest⟩ := Option.bind_eq_some_iff.1 hm
      I.probe p g c3 e m hN h3 hget hbest
    -- `300`: the fuel `Model/Search.lean` gives the move loop (the engine's runs until the picker is exhausted, at
    -- most `MAX_LEGAL_MOVES = 218` moves); `nloop` holds for any
    have hloop := I.nloop n ih g a b p inCheck d' ev nm hN hnm 300
      (Picker.new prevBest) a TT.Bound.upper none i16Min 0 pv c4
      (I.fresh p g nm _ hN hnm hprev) h4 hpv (fun m hm => by cases hm)
    split                                          -- the loop aborts, panics or ends
    · rename_i hl; rw [hl] at hloop; exact ⟨hloop.1, hloop.2.1⟩
    · rename_i hl; rw [hl] at hloop; exact ⟨hloop.1, hloop.2.1⟩
    · rename_i bound bestMove bestEval count pv' c' hl
      rw [hl] at hloop
      exact I.finishNode g d' p inCheck bound bestMove bestEval count pv' c' hN hloop.1 hloop.2.1 hloop.2.2

theorem aspLoop (fuel : Nat) (g : Game) (depth : Nat) (hN : I.N 0 g) :
    ∀ n {w pv c}, I.C c → I.L g pv → I.NPost g (aspiration.loop fuel g depth n w pv c) := by
  intro n
  induction n with
  | zero => intro w pv c h hpv; rw [aspiration.loop.eq_def]; exact ⟨h, hpv⟩
  | succ k ih =>
    intro w pv c h hpv
    rw [aspiration.loop.eq_def]
    simp only
    have ho := I.negamax fuel g w.alpha w.beta depth 0 pv c hN h hpv
    generalize Search.negamax fuel g w.alpha w.beta depth 0 pv c = out at ho ⊢
    split                                          -- the root answers, or aborts or panics
    · rename_i e he
      have hc : I.C out.ctx := by have := ho.1; rw [he] at this; exact this
      split                                        -- fail low
      · exact ih hc ho.2
      · split                                      -- fail high
        · exact ih hc ho.2
        · exact ho
    · exact ho

theorem aspiration (fuel : Nat) (g : Game) (depth : Nat) (prev : Option Int) (pv : List Move) (c : Ctx)
    (hN : I.N 0 g) (h : I.C c) (hpv : I.L g pv) : I.NPost g (aspiration fuel g depth prev pv c) := by
  unfold Search.aspiration
  simp only
  split
  · exact ⟨h, hpv⟩
  · exact I.aspLoop fuel g depth hN _ h hpv

/-- what iterative deepening appends when it starts at depth `d` -/
structure Reports (g : Game) (maxDepth d : Nat) (extra : List Info) : Prop where
  lines : ∀ i ∈ extra, i.pv ≠ [] ∧ I.L g i.pv
  depths : extra.map (·.depth) = List.range' d extra.length
  bound : extra.length ≤ maxDepth + 1 - d

theorem reports_nil (g : Game) (maxDepth d : Nat) : I.Reports g maxDepth d [] :=
  ⟨fun _ h => (nomatch h), rfl, Nat.zero_le _⟩

theorem reports_cons {g : Game} {maxDepth d : Nat} {i : Info} {extra : List Info} (hd : d ≤ maxDepth)
    (hi : i.depth = d) (hne : i.pv ≠ []) (hl : I.L g i.pv) (h : I.Reports g maxDepth (d + 1) extra) :
    I.Reports g maxDepth d (i :: extra) := by
  refine ⟨fun j hj => ?_, ?_, ?_⟩
  · rcases List.mem_cons.1 hj with rfl | hj
    · exact ⟨hne, hl⟩
    · exact h.lines j hj
  · rw [List.map_cons, List.length_cons, List.range'_succ, hi, h.depths]
  · have := h.bound
    rw [List.length_cons]
    omega

theorem iter (fuel : Nat) (g : Game) (maxDepth : Nat) (hN : I.N 0 g) :
    ∀ n d prev pv infos c, I.C c → I.L g pv →
      let r := search.iter fuel g maxDepth d n prev pv infos c
      I.Q r.2.2.2 ∧ I.L g r.2.1 ∧ ∃ extra : List Info, r.2.2.1 = infos ++ extra ∧ I.Reports g maxDepth d extra := by
  -- every way out but the recursive call appends nothing
  have stay : ∀ {d : Nat} {infos : List Info} {c : Ctx} {pv : List Move}, I.Q c → I.L g pv →
      I.Q c ∧ I.L g pv ∧ ∃ extra : List Info, infos = infos ++ extra ∧ I.Reports g maxDepth d extra :=
    fun hq hl => ⟨hq, hl, [], (List.append_nil _).symm, I.reports_nil g maxDepth _⟩
  intro n
  induction n with
  | zero =>
    intro d prev pv infos c h hpv; rw [search.iter.eq_def]
    exact stay (.inl h) hpv
  | succ k ih =>
    intro d prev pv infos c h hpv
    rw [search.iter.eq_def]
    simp only
    split                                          -- past the depth limit
    · exact stay (.inl h) hpv
    · rename_i hd
      have h1 := I.shouldStart c d h
      generalize shouldStartNewSearch c d = sn at h1 ⊢
      obtain ⟨c1, go⟩ := sn
      simp only at h1 ⊢
      split                                        -- the flag read true before the iteration
      · rename_i hgo
        rw [if_neg (by simpa using hgo)] at h1
        exact stay (.inr h1) hpv
      · rename_i hgo
        rw [if_pos (by simpa using hgo)] at h1
        have ho := I.aspiration fuel g d prev pv c1 hN h1 hpv
        generalize Search.aspiration fuel g d prev pv c1 = out at ho ⊢
        obtain ⟨ho1, ho2⟩ := ho
        split                                      -- the iteration answers, aborts or panics
        · rename_i e he
          rw [he] at ho1
          split                                    -- with an empty line
          · exact stay (.inl ho1) ho2
          · rename_i hne
            obtain ⟨q, l, extra, e1, hrep⟩ := ih (d + 1) (some e) out.pv
              (infos ++ [⟨d, out.ctx.seldepth, e, out.ctx.nodes, out.ctx.tt.hashfullExact, out.pv⟩]) out.ctx ho1 ho2
            refine ⟨q, l, ⟨d, out.ctx.seldepth, e, out.ctx.nodes, out.ctx.tt.hashfullExact, out.pv⟩ :: extra, ?_,
              I.reports_cons (Nat.not_lt.1 hd) rfl hne ho2 hrep⟩
            rw [e1, List.append_assoc, List.singleton_append]
        · rename_i he; rw [he] at ho1; exact stay (.inr ho1) ho2
        · rename_i w he; rw [he] at ho1; exact stay (.inl ho1) ho2

theorem search (fuel : Nat) (g : Game) (tt : TT.Table) (history : Array Int)
    (depthLimit : Option Nat) (stopAt : Nat) (everyNode : Bool) (hN : I.N 0 g)
    (h : I.C { tt := tt.newGeneration, history := historyDecay history, killers := newKillers,
               counter := newCounter, stopAt, everyNode }) :
    let out := search fuel g tt history depthLimit stopAt everyNode
    I.Q out.ctx ∧ (∀ m, out.best = some m → I.M g m) ∧ (∀ i ∈ out.infos, i.pv ≠ [] ∧ I.L g i.pv) ∧
    out.infos.map (·.depth) = List.range' 1 out.infos.length ∧
    out.infos.length ≤ depthLimit.getD Gen.maxSearchDepth := by
  intro out
  have hout : out = Search.search fuel g tt history depthLimit stopAt everyNode := rfl
  unfold Search.search at hout
  simp only at hout
  -- `256 1`: the fuel and the first depth with which `Model/Search.lean` starts `iter`, the engine's
  -- `for depth in 1..=max_search_depth`; `Gen.maxSearchDepth + 1` rounds reach the exit past the deepest limit
  have hit := I.iter fuel g (depthLimit.getD Gen.maxSearchDepth) hN 256 1 none [] [] _ h (I.nil g)
  generalize search.iter _ _ _ _ _ _ _ _ _ = r at hit hout
  obtain ⟨pan, pv, infos, c⟩ := r
  obtain ⟨h1, h2, extra, e1, ⟨e2, e3, e4⟩⟩ := hit
  simp only [List.nil_append] at h1 h2 e1 hout
  subst e1
  have hd : infos.length ≤ depthLimit.getD Gen.maxSearchDepth := e4
  split at hout                                    -- an iteration panicked
  · rw [hout]; exact ⟨h1, fun m hm => (by cases hm), e2, e3, hd⟩
  · split at hout                                  -- the head of the line
    · rename_i m rest
      rw [hout]
      exact ⟨h1, fun m' hm => (by cases hm; exact I.head g _ _ h2), e2, e3, hd⟩
    · split at hout                                -- no line: the generator panics
      · rw [hout]; exact ⟨h1, fun m hm => (by cases hm), e2, e3, hd⟩
      · rename_i nm hnm
        split at hout                              -- the first move of a fresh picker, if any
        · rename_i m st' hnext
          rw [hout]
          refine ⟨h1, fun m' hm => ?_, e2, e3, hd⟩
          cases hm
          exact (I.pick 0 g nm _ c m st' hN hnm (I.fresh 0 g nm none hN hnm (fun _ e => nomatch e)) hnext).1
        · rw [hout]; exact ⟨h1, fun m hm => (by cases hm), e2, e3, hd⟩

end SearchInv

theorem iter_depths (fuel : Nat) (g : Game) (maxDepth : Nat) :
    ∀ n d prev pv infos c, ∃ extra : List Info,
      (search.iter fuel g maxDepth d n prev pv infos c).2.2.1 = infos ++ extra ∧
      extra.map (·.depth) = List.range' d extra.length ∧ (extra ≠ [] → d + extra.length ≤ maxDepth + 1) := by
  intro n d prev pv infos c
  obtain ⟨_, _, extra, e1, hrep⟩ := (SearchInv.ofCtx ⟨fun _ => True, fun _ => True, fun _ _ => by split <;> trivial,
    fun _ _ _ _ _ _ _ => trivial⟩ fun _ _ _ => trivial).iter fuel g maxDepth trivial n d prev pv infos c trivial trivial
  refine ⟨extra, e1, hrep.depths, fun hne => ?_⟩
  have := hrep.bound
  have := List.length_pos_iff.2 hne
  omega

end Search
end Tcheran
