import TcheranVerif.Proofs.Bits
import TcheranVerif.Model.Board
/-!
# The three board views agree (`Consistent`), and `setAt` / `removeAt` are mutually inverse

A consistent board is determined by its mailbox (`consistent_ext`), which turns the inverse laws into
statements about the mailbox plus preservation of consistency.
-/

namespace Tcheran

theorem other_other (p : Player) : p.other.other = p := by cases p <;> rfl
theorem ne_iff_other {x p : Player} : x ≠ p ↔ x = p.other := by cases x <;> cases p <;> decide

theorem other_ne (p : Player) : p.other ≠ p := by cases p <;> simp [Player.other]

theorem other_eq_other (a b : Player) : a.other = b.other ↔ a = b := by
  cases a <;> cases b <;> simp [Player.other]

namespace Board

def Consistent (b : Board) : Prop :=
  (∀ (k : PieceKind) (s : Sq), mem (b.byKind k) s = decide ((b.pieceAt s).map (·.kind) = some k)) ∧
  (∀ (p : Player) (s : Sq), mem (b.occFor p) s = decide ((b.pieceAt s).map (·.player) = some p))

theorem byKind_setKind (b : Board) (k k' : PieceKind) (v : BB) :
    (b.setKind k v).byKind k' = if k = k' then v else b.byKind k' := by
  cases k <;> cases k' <;> simp [setKind, byKind]

theorem occFor_setKind (b : Board) (k : PieceKind) (v : BB) (p : Player) :
    (b.setKind k v).occFor p = b.occFor p := by
  cases k <;> cases p <;> rfl

theorem squares_setKind (b : Board) (k : PieceKind) (v : BB) : (b.setKind k v).squares = b.squares := by
  cases k <;> rfl

theorem byKind_setOcc (b : Board) (p : Player) (v : BB) (k : PieceKind) :
    (b.setOcc p v).byKind k = b.byKind k := by
  cases p <;> cases k <;> rfl

theorem occFor_setOcc (b : Board) (p p' : Player) (v : BB) :
    (b.setOcc p v).occFor p' = if p = p' then v else b.occFor p' := by
  cases p <;> cases p' <;> simp [setOcc, occFor]

theorem squares_setOcc (b : Board) (p : Player) (v : BB) : (b.setOcc p v).squares = b.squares := by
  cases p <;> rfl

theorem removeAt_none (b : Board) (s : Sq) (h : b.pieceAt s = none) : b.removeAt s = b := by
  unfold removeAt; rw [h]

theorem squares_setAt (b : Board) (s : Sq) (pc : Piece) : (b.setAt s pc).squares = b.squares.set s.val (some pc) := by
  unfold setAt
  simp only [squares_setOcc, squares_setKind]

/-- also on an empty square, where `remove_at` does nothing -/
theorem squares_removeAt (b : Board) (s : Sq) : (b.removeAt s).squares = b.squares.set s.val none := by
  cases h : b.pieceAt s with
  | none => rw [removeAt_none b s h, ← h]; exact (Vector.set_getElem_self s.isLt).symm
  | some pc => unfold removeAt; rw [h]; simp only [squares_setOcc, squares_setKind]

theorem getElem_set_sq (v : Vector (Option Piece) 64) (s t : Sq) (x : Option Piece) :
    (v.set s.val x)[t.val] = if t = s then x else v[t.val] := by
  rw [Vector.getElem_set]
  simp only [Fin.val_inj, eq_comm (a := s)]

theorem pieceAt_setAt (b : Board) (s t : Sq) (pc : Piece) :
    (b.setAt s pc).pieceAt t = if t = s then some pc else b.pieceAt t := by
  unfold pieceAt
  rw [squares_setAt, getElem_set_sq]

theorem pieceAt_removeAt (b : Board) (s t : Sq) :
    (b.removeAt s).pieceAt t = if t = s then none else b.pieceAt t := by
  unfold pieceAt
  rw [squares_removeAt, getElem_set_sq]

theorem byKind_setAt (b : Board) (s : Sq) (pc : Piece) (k : PieceKind) :
    (b.setAt s pc).byKind k = if pc.kind = k then b.byKind k ||| bb s else b.byKind k := by
  show ((b.setKind pc.kind (b.byKind pc.kind ||| bb s)).setOcc pc.player _).byKind k = _
  rw [byKind_setOcc, byKind_setKind]
  split
  · rename_i h; subst h; rfl
  · rfl

theorem occFor_setAt (b : Board) (s : Sq) (pc : Piece) (p : Player) :
    (b.setAt s pc).occFor p = if pc.player = p then b.occFor p ||| bb s else b.occFor p := by
  show ((b.setKind pc.kind _).setOcc pc.player ((b.setKind pc.kind _).occFor pc.player ||| bb s)).occFor p = _
  rw [occFor_setOcc, occFor_setKind, occFor_setKind]
  split
  · rename_i h; subst h; rfl
  · rfl

theorem byKind_removeAt (b : Board) (s : Sq) (pc : Piece) (h : b.pieceAt s = some pc) (k : PieceKind) :
    (b.removeAt s).byKind k = if pc.kind = k then b.byKind k ^^^ bb s else b.byKind k := by
  unfold removeAt
  rw [h]
  show ((b.setKind pc.kind (b.byKind pc.kind ^^^ bb s)).setOcc pc.player _).byKind k = _
  rw [byKind_setOcc, byKind_setKind]
  split
  · rename_i h; subst h; rfl
  · rfl

theorem occFor_removeAt (b : Board) (s : Sq) (pc : Piece) (h : b.pieceAt s = some pc) (p : Player) :
    (b.removeAt s).occFor p = if pc.player = p then b.occFor p &&& ~~~(bb s) else b.occFor p := by
  unfold removeAt
  rw [h]
  show ((b.setKind pc.kind _).setOcc pc.player ((b.setKind pc.kind _).occFor pc.player &&& ~~~(bb s))).occFor p = _
  rw [occFor_setOcc, occFor_setKind, occFor_setKind]
  split
  · rename_i h; subst h; rfl
  · rfl

/-! In each proof below: is `t` the edited square, is `k` (`p`) the kind (colour) of the man set down or lifted;
the four cases are Boolean computations from the statement for the board before. -/

theorem consistent_setAt (b : Board) (s : Sq) (pc : Piece) (hc : Consistent b) (he : b.pieceAt s = none) :
    Consistent (b.setAt s pc) := by
  constructor
  · intro k t
    have := hc.1 k t
    rw [byKind_setAt, pieceAt_setAt]
    by_cases ht : t = s <;> by_cases hk : pc.kind = k <;> simp_all [mem_or, mem_bb]
  · intro p t
    have := hc.2 p t
    rw [occFor_setAt, pieceAt_setAt]
    by_cases ht : t = s <;> by_cases hp : pc.player = p <;> simp_all [mem_or, mem_bb]

theorem consistent_removeAt (b : Board) (s : Sq) (hc : Consistent b) : Consistent (b.removeAt s) := by
  cases h : b.pieceAt s with
  | none => rw [removeAt_none b s h]; exact hc
  | some pc =>
    constructor
    · intro k t
      have := hc.1 k t
      rw [byKind_removeAt b s pc h, pieceAt_removeAt]
      by_cases ht : t = s <;> by_cases hk : pc.kind = k <;> simp_all [mem_xor, mem_bb]
    · intro p t
      have := hc.2 p t
      rw [occFor_removeAt b s pc h, pieceAt_removeAt]
      by_cases ht : t = s <;> by_cases hp : pc.player = p <;> simp_all [mem_and, mem_not, mem_bb]

theorem consistent_ext (b1 b2 : Board) (h1 : Consistent b1) (h2 : Consistent b2)
    (hs : b1.squares = b2.squares) : b1 = b2 := by
  have hp : ∀ s, b1.pieceAt s = b2.pieceAt s := fun s => by unfold pieceAt; rw [hs]
  have hk : ∀ k, b1.byKind k = b2.byKind k := fun k => by
    apply ext_mem; intro t; rw [h1.1, h2.1, hp]
  have ho : ∀ p, b1.occFor p = b2.occFor p := fun p => by
    apply ext_mem; intro t; rw [h1.2, h2.2, hp]
  cases b1; cases b2
  simp only [Board.mk.injEq]
  exact ⟨hk .pawn, hk .knight, hk .bishop, hk .rook, hk .queen, hk .king, ho .white, ho .black, hs⟩

/-- the colour-and-kind boards the generator and `zobrist::hash` iterate over -/
theorem mem_piecesOf (b : Board) (hc : Consistent b) (k : PieceKind) (p : Player) (s : Sq) :
    mem (b.piecesOf k p) s = decide (b.pieceAt s = some ⟨k, p⟩) := by
  unfold piecesOf
  rw [mem_and, hc.1, hc.2]
  cases b.pieceAt s with
  | none => simp
  | some pc =>
    obtain ⟨k0, p0⟩ := pc
    by_cases hk : k0 = k <;> by_cases hp : p0 = p <;> simp [hk, hp]

theorem squares_ext (v w : Vector (Option Piece) 64) (h : ∀ s : Sq, v[s.val] = w[s.val]) : v = w :=
  Vector.ext fun i hi => h ⟨i, hi⟩

theorem removeAt_setAt (b : Board) (s : Sq) (pc : Piece) (hc : Consistent b) (he : b.pieceAt s = none) :
    (b.setAt s pc).removeAt s = b := by
  apply consistent_ext _ _ (consistent_removeAt _ _ (consistent_setAt b s pc hc he)) hc
  rw [squares_removeAt, squares_setAt, Vector.set_set, ← he]
  exact Vector.set_getElem_self s.isLt

theorem setAt_removeAt (b : Board) (s : Sq) (pc : Piece) (hc : Consistent b) (hp : b.pieceAt s = some pc) :
    (b.removeAt s).setAt s pc = b := by
  have hrem : (b.removeAt s).pieceAt s = none := by rw [pieceAt_removeAt, if_pos rfl]
  apply consistent_ext _ _ (consistent_setAt _ s pc (consistent_removeAt b s hc) hrem) hc
  rw [squares_setAt, squares_removeAt, Vector.set_set, ← hp]
  exact Vector.set_getElem_self s.isLt

theorem consistent_empty : Consistent Board.empty := by
  constructor
  · intro k s
    cases k <;> simp [Board.empty, byKind, pieceAt, mem_zero]
  · intro p s
    cases p <;> simp [Board.empty, occFor, pieceAt, mem_zero]

theorem mem_byKind_removeAt (b : Board) (hc : Consistent b) (s q : Sq) (hq : q ≠ s) (k : PieceKind) :
    mem ((b.removeAt s).byKind k) q = mem (b.byKind k) q := by
  rw [(consistent_removeAt b s hc).1 k q, hc.1 k q, pieceAt_removeAt, if_neg hq]

theorem mem_occFor_removeAt (b : Board) (hc : Consistent b) (s q : Sq) (hq : q ≠ s) (p : Player) :
    mem ((b.removeAt s).occFor p) q = mem (b.occFor p) q := by
  rw [(consistent_removeAt b s hc).2 p q, hc.2 p q, pieceAt_removeAt, if_neg hq]

theorem mem_collect (sq : Vector (Option Piece) 64) (pc : Piece) (l : List Sq) (acc : BB) (t : Sq) :
    mem (l.foldl (fun acc s => if sq[s.val] = some pc then acc ||| bb s else acc) acc) t =
      (mem acc t || (decide (t ∈ l) && decide (sq[t.val] = some pc))) := by
  induction l generalizing acc with
  | nil => simp
  | cons x xs ih =>
    rw [List.foldl_cons, ih]
    by_cases hxt : x = t
    · subst hxt
      by_cases hx : sq[x.val] = some pc <;> simp [hx, mem_or, mem_bb]
    · have : t ≠ x := fun e => hxt e.symm
      by_cases hx : sq[x.val] = some pc <;> simp [hx, mem_or, mem_bb, this]

theorem mem_collect_all (sq : Vector (Option Piece) 64) (pc : Piece) (t : Sq) :
    mem ((List.finRange 64).foldl (fun acc s => if sq[s.val] = some pc then acc ||| bb s else acc) 0#64) t =
      decide (sq[t.val] = some pc) := by
  rw [mem_collect, mem_zero]
  simp [List.mem_finRange]

theorem kind_view (o : Option Piece) (k : PieceKind) :
    (decide (o = some ⟨k, .white⟩) || decide (o = some ⟨k, .black⟩)) = decide (o.map (·.kind) = some k) := by
  cases o with
  | none => simp
  | some pc => obtain ⟨kk, pl⟩ := pc; cases pl <;> simp

theorem player_view (o : Option Piece) (p : Player) :
    (decide (o = some ⟨.pawn, p⟩) || decide (o = some ⟨.knight, p⟩) || decide (o = some ⟨.bishop, p⟩) ||
      decide (o = some ⟨.rook, p⟩) || decide (o = some ⟨.queen, p⟩) || decide (o = some ⟨.king, p⟩)) =
      decide (o.map (·.player) = some p) := by
  cases o with
  | none => simp
  | some pc => obtain ⟨kk, pl⟩ := pc; cases kk <;> simp

theorem consistent_ofSquares (sq : Vector (Option Piece) 64) : (ofSquares sq).Consistent := by
  have hp : ∀ s, (ofSquares sq).pieceAt s = sq[s.val] := fun _ => rfl
  constructor
  · intro k s
    rw [hp, ← kind_view]
    cases k <;> simp only [ofSquares, byKind, mem_or, mem_collect_all]
  · intro p s
    rw [hp, ← player_view]
    cases p <;> simp only [ofSquares, occFor, mem_or, mem_collect_all]

end Board
end Tcheran
