import TcheranVerif.Proofs.Geo.Line
import TcheranVerif.Proofs.Folds
import TcheranVerif.Model.Geometry
/-!
# The bit-level ray walk equals the square-level walk, for every occupancy (unbounded part of C07)
-/

namespace Tcheran
open Geometry

theorem setOf_cons (t : Sq) (l : List Sq) : setOf (t :: l) = bb t ||| setOf l := by
  unfold setOf
  rw [List.foldl_cons, foldl_op_init (· ||| ·) BitVec.or_assoc BitVec.or_comm, BitVec.or_comm]

theorem setOf_nil : setOf [] = 0#64 := rfl

theorem setOf_append (l1 l2 : List Sq) : setOf (l1 ++ l2) = setOf l1 ||| setOf l2 := by
  induction l1 with
  | nil => simp [setOf_nil]
  | cons x xs ih => simp [setOf_cons, ih, BitVec.or_assoc]

theorem mem_setOf (l : List Sq) (t : Sq) : mem (setOf l) t = true ↔ t ∈ l := by
  induction l with
  | nil => simp [setOf_nil, mem_zero]
  | cons x xs ih =>
    rw [setOf_cons, mem_or, mem_bb]
    simp only [Bool.or_eq_true, decide_eq_true_eq, List.mem_cons]
    rw [ih]

theorem setOf_toList (m : BB) : setOf (BB.toList m) = m := by
  apply ext_mem; intro t
  rw [Bool.eq_iff_iff, mem_setOf, mem_toList]

theorem count_setOf_le (l : List Sq) : BB.count (setOf l) ≤ l.length :=
  (toList_nodup _).length_le_of_subset fun t ht => (mem_setOf l t).1 ((mem_toList _ t).1 ht)

theorem walk_zero (d : Dir) (occ : BB) (fuel : Nat) (acc : BB) : walk d occ fuel 0#64 acc = acc := by
  cases fuel <;> simp [walk]

theorem walk_eq (d : Dir) (occ : BB) (fuel : Nat) (s : Sq) (acc : BB) :
    walk d occ fuel (bb s) acc = acc ||| setOf (seen (mem occ) (Rules.ray.go d fuel s)) := by
  induction fuel generalizing s acc with
  | zero => simp [walk, Rules.ray.go, seen, setOf_nil]
  | succ n ih =>
    unfold walk Rules.ray.go
    rw [if_neg (bb_ne_zero s), inDir_bb d s]
    cases hst : s.step d with
    | none =>
      simp [walk_zero, seen, setOf_nil]
    | some t =>
      simp only [Option.elim, seen]
      cases ho : mem occ t with
      | true =>
        have hnz : occ &&& bb t ≠ 0#64 := fun h => by
          have := (and_bb_eq_zero occ t).1 h; simp [ho] at this
        simp only [hnz, ne_eq, not_false_eq_true, if_true, setOf_cons, setOf_nil]
        simp
      | false =>
        have hz : occ &&& bb t = 0#64 := (and_bb_eq_zero occ t).2 ho
        simp only [hz, ne_eq, not_true_eq_false, if_false, Bool.false_eq_true]
        rw [ih t (acc ||| bb t), setOf_cons]
        simp [BitVec.or_assoc]

theorem slide_eq_acc (dirs : List Dir) (s : Sq) (occ : BB) (acc : BB) :
    dirs.foldl (fun acc d => walk d occ 8 (bb s) acc) acc
      = acc ||| setOf (dirs.flatMap fun d => seen (mem occ) (Rules.ray d s)) := by
  induction dirs generalizing acc with
  | nil => simp [setOf_nil]
  | cons d ds ih =>
    simp only [List.foldl_cons, List.flatMap_cons]
    rw [ih, walk_eq, Geo.ray_fuel, setOf_append]
    simp [BitVec.or_assoc]

/-- `Props.C07.slide_spec` -/
theorem slide_eq_spec (dirs : List Dir) (s : Sq) (occ : BB) : slide dirs s occ = slideSpec dirs s occ := by
  unfold slide slideSpec
  rw [slide_eq_acc]
  simp

theorem mem_slide (dirs : List Dir) (s : Sq) (occ : BB) (t : Sq) :
    mem (slide dirs s occ) t = true ↔ ∃ d ∈ dirs, t ∈ seen (mem occ) (Rules.ray d s) := by
  rw [slide_eq_spec, slideSpec, mem_setOf]
  simp [List.mem_flatMap]

/-- `dropLast`: the last square of a ray is seen whether or not it is occupied -/
theorem seen_congr (o1 o2 : Sq → Bool) (l : List Sq) (h : ∀ t ∈ l.dropLast, o1 t = o2 t) :
    seen o1 l = seen o2 l := by
  induction l with
  | nil => rfl
  | cons x xs ih =>
    cases xs with
    | nil => simp [seen]
    | cons y ys =>
      have hx : o1 x = o2 x := h x (by simp [List.dropLast])
      have hrest : ∀ t ∈ (y :: ys).dropLast, o1 t = o2 t := fun t ht =>
        h t (by simp only [List.dropLast_cons_cons, List.mem_cons]; exact Or.inr ht)
      have e1 : seen o1 (x :: y :: ys) = if o1 x then [x] else x :: seen o1 (y :: ys) := rfl
      have e2 : seen o2 (x :: y :: ys) = if o2 x then [x] else x :: seen o2 (y :: ys) := rfl
      rw [e1, e2, hx, ih hrest]

theorem seen_sub {f : Sq → Bool} {l : List Sq} {t : Sq} (h : t ∈ seen f l) : t ∈ l := by
  induction l with
  | nil => exact h
  | cons x xs ih =>
    unfold seen at h
    split at h
    · exact List.mem_cons.2 (Or.inl (List.mem_singleton.1 h))
    · exact List.mem_cons.2 ((List.mem_cons.1 h).imp_right ih)

theorem seen_empty (l : List Sq) : seen (mem 0#64) l = l := by
  induction l with
  | nil => rfl
  | cons x xs ih => rw [seen, mem_zero, if_neg Bool.false_ne_true, ih]

theorem mem_seen_tw (occ : Sq → Bool) (R : List Sq) (q : Sq) :
    q ∈ seen occ R ↔ (q ∈ R ∧ ∀ x ∈ R.takeWhile (fun x => x != q), occ x = false) := by
  induction R with
  | nil => simp [seen]
  | cons y ys ih =>
    unfold seen
    by_cases hyq : y = q
    · subst hyq
      rw [List.takeWhile_cons_of_neg (by simp)]
      split <;> simp
    · rw [List.takeWhile_cons_of_pos (by simpa using hyq)]
      by_cases hy : occ y = true
      · simp [hy, Ne.symm hyq]
      · simp [hy, ih, Ne.symm hyq]

theorem mem_seen_iff (occ : Sq → Bool) (l : List Sq) (q : Sq) :
    q ∈ seen occ l ↔ ∃ pre post, l = pre ++ q :: post ∧ ∀ x ∈ pre, occ x = false := by
  induction l with
  | nil => simp [seen]
  | cons y ys ih =>
    -- a decomposition of `y :: ys` at `q` starts with `q = y` or passes over `y`
    have hcons : (∃ pre post, y :: ys = pre ++ q :: post ∧ ∀ x ∈ pre, occ x = false) ↔
        q = y ∨ (occ y = false ∧ q ∈ seen occ ys) := by
      rw [ih]
      constructor
      · rintro ⟨_ | ⟨z, pre⟩, post, e, hp⟩ <;> cases e
        · exact Or.inl rfl
        · exact Or.inr ⟨hp _ List.mem_cons_self, pre, post, rfl, fun x hx => hp x (List.mem_cons_of_mem _ hx)⟩
      · rintro (rfl | ⟨hy, pre, post, rfl, hp⟩)
        · exact ⟨[], ys, rfl, nofun⟩
        · exact ⟨y :: pre, post, rfl, List.forall_mem_cons.2 ⟨hy, hp⟩⟩
    rw [hcons, seen]
    cases occ y <;> simp

theorem mem_seen_ray (occ : Sq → Bool) (k q : Sq) (dir : Dir) :
    q ∈ seen occ (Rules.ray dir k) ↔ (q ∈ Rules.ray dir k ∧ ∀ x ∈ Rules.betweenList k q, occ x = false) := by
  rw [mem_seen_tw]
  exact and_congr_right fun a => by rw [Geo.betweenList_ray a]

/-- `mem_slide` with `seen` resolved: the form in which the slider sets are used -/
theorem mem_slideSpec (dirs : List Dir) (k : Sq) (occ : BB) (q : Sq) :
    mem (slideSpec dirs k occ) q = true ↔
      ∃ dir ∈ dirs, q ∈ Rules.ray dir k ∧ ∀ y ∈ Rules.betweenList k q, mem occ y = false := by
  simp only [← slide_eq_spec, mem_slide, mem_seen_ray]

theorem slide_sub_empty (dirs : List Dir) (s : Sq) (occ : BB) (t : Sq) (h : mem (slide dirs s occ) t = true) :
    mem (slide dirs s 0#64) t = true := by
  rw [mem_slide] at h ⊢
  obtain ⟨d, hd, ht⟩ := h
  exact ⟨d, hd, by rw [seen_empty]; exact seen_sub ht⟩

end Tcheran
