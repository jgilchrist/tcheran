import TcheranVerif.Proofs.Board
import TcheranVerif.Proofs.Folds
import TcheranVerif.Model.Game
/-!
# `Sync`: the carried key and accumulators equal their recomputation, for any key / parameter table

`Sync c g` = the three board views agree ∧ `g.zobrist = zobrist::hash(g)` ∧ `g.inc =
IncrementalEvalFields::init(g.board)`. Key and accumulators are sums over the mailbox (`pieceHash`,
`incInit_eq`), and such a sum changes under an edit of one square by that square's summand
(`summary_point`); so each primitive of `make_move` preserves `Sync`.
-/

namespace Tcheran
open Board Game

def sqs : List Sq := List.finRange 64

theorem sqs_nodup : sqs.Nodup := List.nodup_finRange 64
theorem mem_sqs (s : Sq) : s ∈ sqs := List.mem_finRange s

def contrib (c : Cfg) (b : Board) (s : Sq) : BB :=
  match b.pieceAt s with
  | some pc => c.zPiece pc.player pc.kind s
  | none => 0#64

def pieceHash (c : Cfg) (b : Board) : BB := xsum sqs (contrib c b)

/-- a conditional XOR written as an XOR -/
def bsel (b : Bool) (x : BB) : BB := if b then x else 0#64

@[simp] theorem bsel_true (x : BB) : bsel true x = x := rfl
@[simp] theorem bsel_false (x : BB) : bsel false x = 0#64 := rfl

def rightsHash (c : Cfg) (r : Rights) : BB :=
  bsel r.white.kingSide (c.zCastle .white .king) ^^^ bsel r.white.queenSide (c.zCastle .white .queen) ^^^
  bsel r.black.kingSide (c.zCastle .black .king) ^^^ bsel r.black.queenSide (c.zCastle .black .queen)

def sideHash (c : Cfg) (p : Player) : BB := if p = .black then c.zSide else 0#64

def fullHash (c : Cfg) (b : Board) (p : Player) (r : Rights) (ep : Option Sq) : BB :=
  pieceHash c b ^^^ rightsHash c r ^^^ c.zEpOpt ep ^^^ sideHash c p

/-- the six per-kind loops of `zobrist::hash` for one colour are one pass over the mailbox -/
theorem colour_hash (c : Cfg) (b : Board) (hc : Consistent b) (p : Player) (h0 : BB) :
    PieceKind.all.foldl (fun h k => (BB.toList (b.piecesOf k p)).foldl (fun h s => h ^^^ c.zPiece p k s) h) h0
      = h0 ^^^ xsum sqs (fun s => match b.pieceAt s with
          | some pc => if pc.player = p then c.zPiece p pc.kind s else 0#64
          | none => 0#64) := by
  simp only [PieceKind.all, List.foldl_cons, List.foldl_nil, foldl_xor_toList, mem_piecesOf b hc, BitVec.xor_assoc]
  rw [← xsum_xor, ← xsum_xor, ← xsum_xor, ← xsum_xor, ← xsum_xor]
  congr 1
  apply xsum_congr
  intro s _
  cases b.pieceAt s with
  | none => simp
  | some pc => obtain ⟨k0, p0⟩ := pc; cases k0 <;> by_cases hp : p0 = p <;> simp [hp]

theorem ite_xor_bsel (t : Bool) (h z : BB) : (if t = true then h ^^^ z else h) = h ^^^ bsel t z := by
  cases t <;> simp

theorem hash_eq_fullHash (c : Cfg) (b : Board) (hc : Consistent b) (p : Player) (r : Rights) (ep : Option Sq) :
    Game.hash c b p r ep = fullHash c b p r ep := by
  have hp : pieceHash c b = 0#64 ^^^
      xsum sqs (fun s => match b.pieceAt s with
          | some pc => if pc.player = .white then c.zPiece .white pc.kind s else 0#64 | none => 0#64) ^^^
      xsum sqs (fun s => match b.pieceAt s with
          | some pc => if pc.player = .black then c.zPiece .black pc.kind s else 0#64 | none => 0#64) := by
    rw [BitVec.zero_xor, ← xsum_xor]
    apply xsum_congr
    intro s _
    unfold contrib
    cases b.pieceAt s with
    | none => simp
    | some pc => obtain ⟨k0, p0⟩ := pc; cases p0 <;> simp
  unfold Game.hash fullHash
  simp only [colour_hash c b hc, ← hp, ite_xor_bsel]
  unfold rightsHash sideHash
  split <;> ac_rfl

def phaseC (c : Cfg) (b : Board) (s : Sq) : Int :=
  match b.pieceAt s with
  | some pc => c.phase pc.kind
  | none => 0

def pstC (c : Cfg) (b : Board) (s : Sq) : Int :=
  match b.pieceAt s with
  | some pc => c.pst pc.player pc.kind s
  | none => 0

theorem incInit_eq (c : Cfg) (b : Board) :
    Game.incInit c b = ⟨isum sqs (phaseC c b), isum sqs (pstC c b)⟩ := by
  unfold Game.incInit
  have : ∀ (l : List Sq) (a : Inc),
      l.foldl (fun acc s => match b.pieceAt s with
        | some pc => { phase := acc.phase + c.phase pc.kind, pst := acc.pst + c.pst pc.player pc.kind s }
        | none => acc) a = ⟨a.phase + isum l (phaseC c b), a.pst + isum l (pstC c b)⟩ := by
    intro l
    induction l with
    | nil => intro a; simp [isum]
    | cons x xs ih =>
      intro a
      simp only [List.foldl_cons]
      rw [ih, isum_cons, isum_cons]
      unfold phaseC pstC
      cases b.pieceAt x with
      | none => simp
      | some pc => simp only; congr 1 <;> omega
  exact (this (List.finRange 64) ⟨0, 0⟩).trans (by simp [sqs])

theorem summary_point (c : Cfg) (b b' : Board) (s : Sq) (hd : ∀ t, t ≠ s → b'.pieceAt t = b.pieceAt t) :
    pieceHash c b' = pieceHash c b ^^^ contrib c b' s ^^^ contrib c b s ∧
    isum sqs (phaseC c b') = isum sqs (phaseC c b) + phaseC c b' s - phaseC c b s ∧
    isum sqs (pstC c b') = isum sqs (pstC c b) + pstC c b' s - pstC c b s :=
  ⟨xsum_update sqs sqs_nodup (contrib c b) (contrib c b') s (mem_sqs s) (fun t ht => by unfold contrib; rw [hd t ht]),
   isum_update sqs sqs_nodup (phaseC c b) (phaseC c b') s (mem_sqs s) (fun t ht => by unfold phaseC; rw [hd t ht]),
   isum_update sqs sqs_nodup (pstC c b) (pstC c b') s (mem_sqs s) (fun t ht => by unfold pstC; rw [hd t ht])⟩

structure Sync (c : Cfg) (g : Game) : Prop where
  cons : g.board.Consistent
  key : g.zobrist = fullHash c g.board g.player g.rights g.ep
  inc : g.inc = Game.incInit c g.board

theorem sync_fromState (c : Cfg) (b : Board) (hc : b.Consistent) (p : Player) (r : Rights) (ep : Option Sq)
    (hm pl : Nat) : Sync c (Game.fromState c b p r ep hm pl) :=
  ⟨hc, hash_eq_fullHash c b hc p r ep, by simp only [Game.fromState]⟩

theorem sync_setAt (c : Cfg) (g : Game) (s : Sq) (pc : Piece) (h : Sync c g) (he : g.board.pieceAt s = none) :
    Sync c (Game.setAt c g s pc) := by
  obtain ⟨hk, hp, hq⟩ := summary_point c g.board (g.board.setAt s pc) s
    (fun t ht => by rw [pieceAt_setAt, if_neg ht])
  simp only [contrib, phaseC, pstC, pieceAt_setAt, he, if_true] at hk hp hq
  refine ⟨consistent_setAt _ s pc h.cons he, ?_, ?_⟩
  · simp only [Game.setAt, h.key, fullHash, hk]
    ac_rfl
  · simp only [Game.setAt, h.inc, incInit_eq, hp, hq, Int.sub_zero]

theorem removeAt_eq_some (c : Cfg) (g g' : Game) (s : Sq) (pc : Piece) :
    Game.removeAt c g s = some (g', pc) ↔ g.board.pieceAt s = some pc ∧
      g' = { g with board := g.board.removeAt s,
                    zobrist := g.zobrist ^^^ c.zPiece pc.player pc.kind s,
                    inc := { phase := g.inc.phase - c.phase pc.kind, pst := g.inc.pst - c.pst pc.player pc.kind s } } := by
  unfold Game.removeAt
  cases g.board.pieceAt s with
  | none => simp
  | some pc' =>
    simp only [Option.some.injEq, Prod.mk.injEq]
    constructor
    · rintro ⟨rfl, rfl⟩; exact ⟨rfl, rfl⟩
    · rintro ⟨rfl, rfl⟩; exact ⟨rfl, rfl⟩

theorem sync_removeAt (c : Cfg) (g g' : Game) (s : Sq) (pc : Piece) (h : Sync c g)
    (hr : Game.removeAt c g s = some (g', pc)) : Sync c g' := by
  obtain ⟨hp, rfl⟩ := (removeAt_eq_some c g g' s pc).1 hr
  obtain ⟨hk, hph, hq⟩ := summary_point c g.board (g.board.removeAt s) s
    (fun t ht => by rw [pieceAt_removeAt, if_neg ht])
  simp only [contrib, phaseC, pstC, pieceAt_removeAt, hp, if_true] at hk hph hq
  refine ⟨consistent_removeAt _ s h.cons, ?_, ?_⟩
  · simp only [h.key, fullHash, hk]
    ac_rfl
  · simp only [h.inc, incInit_eq, hph, hq, Int.add_zero]

theorem rightsHash_remove (c : Cfg) (r : Rights) (p : Player) (side : Side) (hh : Rights.has r p side = true) :
    rightsHash c (Rights.remove r p side) = rightsHash c r ^^^ c.zCastle p side := by
  -- read the other way round no cancellation is needed: the word is present before and absent after
  have : rightsHash c r = rightsHash c (Rights.remove r p side) ^^^ c.zCastle p side := by
    obtain ⟨⟨wk, wq⟩, ⟨bk, bq⟩⟩ := r
    cases p <;> cases side <;> simp only [Rights.has, Rights.forP] at hh <;> subst hh <;>
      simp only [rightsHash, Rights.remove, bsel_true, bsel_false, BitVec.zero_xor, BitVec.xor_zero] <;> ac_rfl
  rw [this, BitVec.xor_assoc, BitVec.xor_self, BitVec.xor_zero]

theorem remove_of_not_has (r : Rights) (p : Player) (side : Side) (h : Rights.has r p side = false) :
    Rights.remove r p side = r := by
  cases p <;> cases side <;> (obtain ⟨⟨a, b⟩, ⟨c, d⟩⟩ := r) <;>
    simp [Rights.has, Rights.forP, Rights.remove] at h ⊢ <;> exact h

/-- also when the right was not held: then removing it changes nothing (`remove_of_not_has`) -/
theorem tryRemoveRights_eq (c : Cfg) (g : Game) (p : Player) (side : Side) :
    ∃ z, tryRemoveRights c g p side = { g with rights := Rights.remove g.rights p side, zobrist := z } := by
  unfold tryRemoveRights
  split
  · rename_i h
    rw [remove_of_not_has _ _ _ (by simpa using h)]
    exact ⟨g.zobrist, rfl⟩
  · exact ⟨_, rfl⟩

theorem sync_tryRemoveRights (c : Cfg) (g : Game) (p : Player) (side : Side) (h : Sync c g) :
    Sync c (tryRemoveRights c g p side) := by
  unfold tryRemoveRights
  cases hh : Rights.has g.rights p side with
  | false => simpa using h
  | true =>
    simp only [Bool.not_true, Bool.false_eq_true, if_false]
    refine ⟨h.cons, ?_, h.inc⟩
    simp only [h.key, fullHash, rightsHash_remove c _ p side hh]
    ac_rfl

theorem sync_mmSetEp (c : Cfg) (g : Game) (ne : Option Sq) (h : Sync c g) : Sync c (mmSetEp c g ne) := by
  refine ⟨h.cons, ?_, h.inc⟩
  have cancel : ∀ a e s n : BB, a ^^^ e ^^^ s ^^^ e ^^^ n = a ^^^ n ^^^ s := fun a e s n => by
    rw [show a ^^^ e ^^^ s ^^^ e ^^^ n = a ^^^ n ^^^ s ^^^ (e ^^^ e) by ac_rfl, BitVec.xor_self, BitVec.xor_zero]
  simp only [mmSetEp, h.key, fullHash]
  exact cancel _ _ _ _

theorem sideHash_other (c : Cfg) (p : Player) : sideHash c p.other = sideHash c p ^^^ c.zSide := by
  cases p <;> simp [sideHash, Player.other]

theorem sync_mmFinish (c : Cfg) (g : Game) (moved : Piece) (cap : Option Piece) (h : Sync c g) :
    Sync c (mmFinish c g moved cap) := by
  refine ⟨h.cons, ?_, h.inc⟩
  simp only [mmFinish, h.key, fullHash, sideHash_other]
  ac_rfl

theorem sync_history (c : Cfg) (g : Game) (hs : List History) (h : Sync c g) : Sync c { g with history := hs } :=
  ⟨h.cons, h.key, h.inc⟩

end Tcheran
