import TcheranVerif.Proofs.SearchBasics
import TcheranVerif.Proofs.SearchInv
import TcheranVerif.Props.C10
/-!
# Search soundness (C04 / C08 / C09): every move and every line the search hands out is legal

`soundInv`, an instance of the search invariant of `Proofs/SearchInv.lean`: the table stays `TTGood`, the PV
buffer stays a `LegalLine` of the node's position, the picker state stays inside the invariant of C10 for every
content of the killer / counter / history tables (they may change between two `next` calls of the same node),
so every move tried is a legal move.
-/

namespace Tcheran
namespace Search
open Board Game Rules

theorem fst_eq {α β} {x : α × β} {a : α} {b : β} (h : x = (a, b)) : a = x.1 := by rw [h]

theorem ctx_if_tt (b : Prop) [Decidable b] (x y : Ctx) : (if b then x else y).tt = if b then x.tt else y.tt := by
  split <;> rfl

/-- the picker of a node, whatever the tables hold at the moment of each call. `sub` follows from `inv`
(`PLoop.of_inv`); it is a field so that `ploop_step` reads membership in the lists of `nm` off it, without
`Picker.inP_sub` and the rewriting from `e` to `nm` -/
structure PLoop (nm : NodeMoves) (st : Picker.State) : Prop where
  inv : ∀ e : Picker.Env, e.captures = nm.captures → e.quiets = nm.quiets → Picker.Inv e st
  sub : ∀ e : Picker.Env, e.captures = nm.captures → e.quiets = nm.quiets →
    ∀ x, Picker.InP e st x → x ∈ nm.captures ∨ x ∈ nm.quiets

theorem PLoop.of_inv {nm : NodeMoves} {st : Picker.State}
    (h : ∀ e : Picker.Env, e.captures = nm.captures → e.quiets = nm.quiets → Picker.Inv e st) : PLoop nm st :=
  ⟨h, fun e hc hq x hx => hc ▸ hq ▸ Picker.inP_sub (h e hc hq) x hx⟩

theorem ploop_new (nm : NodeMoves) (hash : Option Move)
    (hh : ∀ h, hash = some h → h ∈ nm.captures ∨ h ∈ nm.quiets) : PLoop nm (Picker.new hash) :=
  .of_inv fun e hc hq => Props.C10.inv_new e hash (by rw [hc, hq]; exact hh)

theorem ploop_newLoud (nm : NodeMoves) : PLoop nm Picker.newLoud :=
  .of_inv fun e _ _ => Props.C10.inv_newLoud e

theorem ploop_step (nm : NodeMoves) (st st' : Picker.State) (e : Picker.Env) (mv : Move)
    (hc : e.captures = nm.captures) (hq : e.quiets = nm.quiets) (hE : Picker.EnvOk e) (h : PLoop nm st)
    (hn : Picker.next e st = (some mv, st')) : (mv ∈ nm.captures ∨ mv ∈ nm.quiets) ∧ PLoop nm st' := by
  have hk := Picker.next_ok e hE st (h.inv e hc hq)
  rw [hn] at hk
  exact ⟨h.sub e hc hq mv hk.mem,
    .of_inv fun e2 hc2 hq2 => Picker.inv_congr (hc.trans hc2.symm) (hq.trans hq2.symm) hk.inv⟩

theorem nodeMoves_exact (T : SliderTables) (g : Game) (h : SInv g) :
    ∃ nm, nodeMoves g = some nm ∧ (∀ (c : Ctx) (plies : Nat), Picker.EnvOk (pickerEnv g nm c plies)) ∧
      ∀ m, (m ∈ nm.captures ∨ m ∈ nm.quiets) ↔ m ∈ legalMoves (ofGame g) := by
  obtain ⟨k, hk⟩ := posH_of_ginv g h.1 h.2
  obtain ⟨caps, cache, quiets, h1, h2, h3⟩ := generate_exact T g k hk
  have hnm : nodeMoves g = some ⟨caps, quiets⟩ := Props.C10.nodeMoves_eq.2 ⟨cache, h1, h2⟩
  exact ⟨_, hnm, Props.C10.envOk_of_generate T g k hk _ hnm, fun m => by rw [← h3 m, List.mem_append]⟩

theorem nodeMoves_spec (T : SliderTables) (g : Game) (h : SInv g) (nm : NodeMoves) (hnm : nodeMoves g = some nm) :
    (∀ (c : Ctx) (plies : Nat), Picker.EnvOk (pickerEnv g nm c plies)) ∧
    ∀ m, (m ∈ nm.captures ∨ m ∈ nm.quiets) ↔ m ∈ legalMoves (ofGame g) := by
  obtain ⟨nm', h1, h2⟩ := nodeMoves_exact T g h
  cases hnm.symm.trans h1
  exact h2

theorem nodeMoves_total (T : SliderTables) (g : Game) (h : SInv g) : ∃ nm, nodeMoves g = some nm :=
  let ⟨nm, hnm, _⟩ := nodeMoves_exact T g h
  ⟨nm, hnm⟩

/-- the root of the search sits `k` plies down the universe, so that a table left by a search from one position of
a game is good, for the same `U`, for a search from any other -/
def soundInv (T : SliderTables) (U : Universe) (k : Nat) : SearchInv where
  C := fun c => TTGood U c.tt
  A := fun c => TTGood U c.tt
  poll := fun c h => by split <;> exact h
  frame := fun c c' h htt _ _ _ => by rw [htt]; exact h
  N := fun p g => U.R (k + p) g
  M := fun g m => m ∈ legalMoves (ofGame g)
  L := LegalLine
  S := fun _ nm st => PLoop nm st
  nil := legalLine_nil
  cons := legalLine_cons
  head := fun _ _ _ h => h.1
  step := fun p g m g' => U.step (k + p) g m g'
  null := fun p g hN hc => U.null (k + p) g hN (by
    rw [kingInCheck_sinv T g (U.inv _ g hN)] at hc
    exact Option.some.inj hc)
  probe := fun p g c d m hN hC hget hb => hC (k + p) g d m hN hget hb
  fresh := fun p g nm hash hN hnm hh =>
    ploop_new nm hash fun h e => ((nodeMoves_spec T g (U.inv _ g hN) nm hnm).2 h).2 (hh h e)
  pick := fun p g nm st c mv st' hN hnm hS hnext => by
    obtain ⟨hEnv, hmem⟩ := nodeMoves_spec T g (U.inv _ g hN) nm hnm
    obtain ⟨h1, h2⟩ := ploop_step nm st st' _ mv rfl rfl (hEnv c p) hS hnext
    exact ⟨(hmem mv).1 h1, h2⟩
  insert := fun p g c d hN hC hb => ttGood_insert U c.tt (k + p) g d hC hN hb

theorem search_sound (T : SliderTables) (U : Universe) (k fuel : Nat) (g : Game) (tt : TT.Table) (history : Array Int)
    (depthLimit : Option Nat) (stopAt : Nat) (everyNode : Bool) (hr : U.R k g) (htt : TTGood U tt) :
    let out := search fuel g tt history depthLimit stopAt everyNode
    (∀ m, out.best = some m → m ∈ legalMoves (ofGame g)) ∧
    (∀ i ∈ out.infos, i.pv ≠ [] ∧ LegalLine g i.pv) ∧
    TTGood U out.ctx.tt :=
  have h := (soundInv T U k).search fuel g tt history depthLimit stopAt everyNode hr (ttGood_newGeneration U tt htt)
  ⟨h.2.1, h.2.2.1, h.1.elim id id⟩

/-! ### Stopping (C09): once the flag has read true nothing more is examined

`stoppedNodes` is a ghost field of the search context, written by `poll` at the consultation that first
reads true and read by no code. `NotYet c` : the flag has not read true; `Stopped c` : it read true at the
**last** consultation made and the node counter still has the value it had then. As an invariant of
`Proofs/SearchInv.lean` (the only thing to check is `poll`): every function of the search keeps `NotYet` until it
returns `abort`, and returns `abort` only in a `Stopped` context, which every caller hands up unchanged.
`search_any` reads the reported depths off this instance too, the one that needs no hypothesis on the position. -/

def NotYet (c : Ctx) : Prop := c.stoppedNodes = none ∧ (c.stopAt = 0 ∨ c.polls < c.stopAt)
def Stopped (c : Ctx) : Prop := c.stoppedNodes = some c.nodes ∧ c.stopAt ≠ 0 ∧ c.polls = c.stopAt

def AbPost {α} (res : Res α) (c : Ctx) : Prop :=
  match res with
  | .abort => Stopped c
  | _ => NotYet c

theorem poll_cases (c : Ctx) (h : NotYet c) :
    if (poll c).2 = true then Stopped (poll c).1 else NotYet (poll c).1 := by
  obtain ⟨h1, h2⟩ := h
  unfold poll NotYet Stopped
  simp only [h1, Option.isNone_none, Bool.and_true]
  by_cases hs : c.stopAt = 0
  · simp [hs]
  · by_cases hp : c.polls + 1 ≥ c.stopAt
    · have : c.polls + 1 = c.stopAt := by omega
      simp [hs, this]
    · simp [hs, hp]
      omega

theorem abPost_ok {α} (v : α) (c : Ctx) : AbPost (.ok v) c = NotYet c := rfl
theorem abPost_panic {α} (w : String) (c : Ctx) : AbPost (.panic w : Res α) c = NotYet c := rfl
theorem abPost_abort {α} (c : Ctx) : AbPost (.abort : Res α) c = Stopped c := rfl

/-- `stopInv.Post` is `AbPost` -/
def stopInv : SearchInv :=
  .ofCtx ⟨NotYet, Stopped, poll_cases, fun c c' h _ h3 h2 h1 => by unfold NotYet at *; rw [h1, h2, h3]; exact h⟩
    fun _ _ h => h

theorem search_any (fuel : Nat) (g : Game) (tt : TT.Table) (history : Array Int)
    (depthLimit : Option Nat) (stopAt : Nat) (everyNode : Bool) :
    let out := search fuel g tt history depthLimit stopAt everyNode
    (NotYet out.ctx ∨ Stopped out.ctx) ∧ out.infos.map (·.depth) = List.range' 1 out.infos.length ∧
    out.infos.length ≤ depthLimit.getD Gen.maxSearchDepth :=
  have h := stopInv.search fuel g tt history depthLimit stopAt everyNode trivial
    ⟨rfl, by show stopAt = 0 ∨ 0 < stopAt; omega⟩
  ⟨h.1, h.2.2.2⟩

/-! ### Mate and stalemate verdicts (C08, with C01 / C10)

A node of `negamax` scores itself as mated (`mated_in(plies)`) or stalemated (`0`) exactly when its move loop ends
without having searched a move (`count = 0`). That happens only if the picker's very first answer is "no move"
(`loop_count_zero`: every other way through the body of the loop counts a move or, the futility skip, needs one
counted already); a fresh picker answers "no move" at once only if the generator produced nothing
(`Props.C10.first_none_empty`); with C01 (`nodeMoves_spec`) the position then has no legal move. -/

theorem loop_count_zero {fuel : Nat} {g : Game} {alpha0 beta : Int} {plies : Nat} {inCheck : Bool} {depth : Nat}
    {ev : Int} {nm : NodeMoves} :
    ∀ lf {st alpha bound bestMove bestEval count pv c b' bm' be' pv' c'},
      negamax.loop fuel g alpha0 beta plies inCheck depth ev nm lf st alpha bound bestMove bestEval count pv c
        = (.ok (b', bm', be', 0), pv', c') →
      count = 0 ∧ (Picker.next (pickerEnv g nm c plies) st).1 = none := by
  intro lf
  induction lf with
  | zero =>
    intro st alpha bound bestMove bestEval count pv c b' bm' be' pv' c' h
    rw [negamax.loop.eq_1] at h
    cases h
  | succ n ih =>
    intro st alpha bound bestMove bestEval count pv c b' bm' be' pv' c' h
    rw [negamax.loop.eq_2] at h
    split at h                                     -- the picker is exhausted
    · rename_i st' hnext
      cases h
      exact ⟨rfl, by rw [hnext]⟩
    split at h                                     -- futility: only after a first move
    · rename_i hf
      simp only [Bool.and_eq_true, decide_eq_true_eq] at hf
      have := (ih h).1
      omega
    split at h                                     -- `make_move` refuses
    · cases h
    -- every way on counts the move
    extract_lets count' out cx at h
    have hc : count' = count + 1 := rfl
    clear_value out cx count'
    split at h                                     -- the child answers, aborts or panics
    · extract_lets score at h
      split at h
      split at h                                   -- beta cut-off
      · cases h; omega
      split at h                                   -- alpha raised
      · split at h                                 -- the new line does not fit the PV buffer
        · cases h
        · have := (ih h).1
          omega
      · have := (ih h).1
        omega
    · cases h
    · cases h

theorem terminal_verdict (T : SliderTables) {fuel : Nat} {g : Game} (hs : SInv g) {alpha0 beta : Int} {plies : Nat}
    {inCheck : Bool} {depth : Nat} {ev : Int} {nm : NodeMoves} (hnm : nodeMoves g = some nm) {prevBest : Option Move}
    (hpb : ∀ h, prevBest = some h → h ∈ legalMoves (ofGame g)) {lf count : Nat} {alpha be be' : Int}
    {bound b' : TT.Bound} {bm bm' : Option Move} {pv pv' : List Move} {c c' : Ctx}
    (hloop : negamax.loop fuel g alpha0 beta plies inCheck depth ev nm lf (Picker.new prevBest) alpha bound bm be
        count pv c = (.ok (b', bm', be', 0), pv', c')) :
    legalMoves (ofGame g) = [] := by
  obtain ⟨hEnv, hmem⟩ := nodeMoves_spec T g hs nm hnm
  obtain ⟨hc, hq⟩ : nm.captures = [] ∧ nm.quiets = [] :=
    Props.C10.first_none_empty (pickerEnv g nm c plies) (hEnv c plies) prevBest (fun h hh => (hmem h).2 (hpb h hh))
      (loop_count_zero lf hloop).2
  refine List.eq_nil_iff_forall_not_mem.2 fun m hm => ?_
  have := (hmem m).2 hm
  rw [hc, hq] at this
  rcases this with h | h <;> cases h

end Search
end Tcheran
