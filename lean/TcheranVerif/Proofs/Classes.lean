import TcheranVerif.Proofs.PlainMove
import TcheranVerif.Proofs.RulesSplit
import TcheranVerif.Proofs.StageForm
/-!
# Per-class exactness of the generator: the skeleton, knights, sliders and king (C01)

Every stage iterates over pairs of squares picked by bit tests and pushes moves for them. The bit tests say
"pseudo-legal, and guarded" (`hmem`); for a pseudo-legal move the guard is exactly legality (`hleg`); hence
the stage lists exactly the legal moves of its class (`stage_exact`). For sliders and pawns `hleg` is one
fact, `ray_move_legal`: check mask and the two pin masks decide a plain move along a ray; for knights it is
`pin_knight`; the king's two stages use no mask (`king_moves_exact`). The masks of `generate_captures`
mean what `MaskSpec` asks (`checkMask_spec`, `maskSpec_of`), and so does the empty check mask in double check
(`maskSpec_zero`).
-/

namespace Tcheran
open Board Geometry Rules

/-- what the shared cache of `generate_captures` means (at most one checker) -/
structure MaskSpec (bd : Board) (p : Player) (k : Sq) (checkMask orthPins diagPins : BB) : Prop where
  check : ∀ d, mem checkMask d = true ↔ CheckOK bd.squares p.other k d
  orth : ∀ x, mem orthPins x = true ↔ ∃ q, SliderGeo bd.squares p.other .rook Dir.cardinal k q ∧
    XR bd.squares p k q ∧ (x = q ∨ x ∈ betweenList k q)
  diag : ∀ x, mem diagPins x = true ↔ ∃ q, SliderGeo bd.squares p.other .bishop Dir.diagonal k q ∧
    XR bd.squares p k q ∧ (x = q ∨ x ∈ betweenList k q)

theorem MaskSpec.pin {bd : Board} {p : Player} {k : Sq} {cm op dp : BB} (ms : MaskSpec bd p k cm op dp) :
    ∀ (c : Bool) (x : Sq), mem (cond c op dp) x = true ↔ PinLine bd.squares p k c x
  | true => ms.orth
  | false => ms.diag

theorem checkMask_spec (T : SliderTables) (bd : Board) (hc : Consistent bd) (p : Player) (k : Sq)
    (hn : ¬ BB.count (attackersOf bd p k) > 1) :
    ∃ cm, checkMaskFor (attackersOf bd p k) k (BB.count (attackersOf bd p k)) = some cm ∧
      ∀ d, mem cm d = true ↔ CheckOK bd.squares p.other k d := by
  unfold checkMaskFor
  rcases count_le_one (Nat.le_of_not_lt hn) with hz | ⟨c, hl⟩
  · refine ⟨BB.full, by rw [(count_eq_zero_iff _).2 hz]; rfl, fun d => ?_⟩
    rw [mem_full]
    exact ⟨fun _ => checkOK_zero T bd hc p k d hz, fun _ => rfl⟩
  · refine ⟨between c k ||| attackersOf bd p k, ?_, fun d => (checkOK_one T bd hc p k d c hl).symm⟩
    rw [BB.count, BB.lsbSq?, hl]; rfl

theorem maskSpec_of (T : SliderTables) (bd : Board) (hc : Consistent bd) (p : Player) (k : Sq) (cm : BB)
    (hcm : ∀ d, mem cm d = true ↔ CheckOK bd.squares p.other k d) :
    MaskSpec bd p k cm (getPins bd p k).1 (getPins bd p k).2 :=
  { check := hcm
    orth := getPins_orth T bd hc p k
    diag := getPins_diag T bd hc p k }

theorem maskSpec_zero (T : SliderTables) (bd : Board) (hc : Consistent bd) (p : Player) (k : Sq)
    (hn : BB.count (attackersOf bd p k) > 1) : MaskSpec bd p k 0#64 (getPins bd p k).1 (getPins bd p k).2 :=
  maskSpec_of T bd hc p k 0#64 fun d => by
    rw [mem_zero]
    exact ⟨nofun, fun e => absurd e (checkOK_many T bd hc p k d hn)⟩

structure Ctx (bd : Board) (p : Player) (k : Sq) : Prop where
  cons : Consistent bd
  king : ∀ s, at' bd.squares s = some ⟨.king, p⟩ ↔ s = k

theorem Ctx.king_occ {bd : Board} {p : Player} {k : Sq} (c : Ctx bd p k) : occOf bd.squares k = true :=
  Own.occ ⟨_, (c.king k).2 rfl, rfl⟩

theorem Ctx.lsb_king {bd : Board} {p : Player} {k : Sq} (c : Ctx bd p k) : BB.lsbSq? (bd.kingOf p) = some k := by
  rw [lsbSq_kingOf bd c.cons p]
  exact kingSq_unique _ _ k c.king

theorem Ctx.dst_ne_king {bd : Board} {p : Player} {k : Sq} (c : Ctx bd p k) (t : Sq)
    (h : Landable bd.squares p t) : t ≠ k := by
  rintro rfl
  rw [Landable, (c.king t).2 rfl] at h
  rcases h with h | ⟨pc, h, hp⟩
  · cases h
  · cases h
    exact hp rfl

theorem ray_move_legal {bd : Board} {p : Player} {k : Sq} (c : Ctx bd p k) {cm op dp : BB}
    (ms : MaskSpec bd p k cm op dp) (f : Bool) {s t : Sq} {X : Piece} (hs : at' bd.squares s = some X)
    (hXp : X.player = p) (hXk : X.kind ≠ .king) (hte : Landable bd.squares p t) {dir : Dir} (hdir : dir ∈ fam f)
    (htr : t ∈ ray dir s) (hpath : ∀ x ∈ betweenList s t, occOf bd.squares x = false)
    {m : Move} (hsrc : m.src = s) (hdst : m.dst = t) (hfl : m.Plain) :
    inCheck (applyBoard bd.squares p m) p = false ↔
      (mem cm t = true ∧ mem (cond (!f) op dp) s = false ∧
        (mem (cond f op dp) s = true → mem (cond f op dp) t = true)) := by
  subst hsrc; subst hdst
  rw [plain_move_legal bd.squares p k c.king m X hs hXp hXk hfl (c.dst_ne_king _ hte)
      (fun e => Geo.self_not_mem_ray dir _ (e ▸ htr)),
    pinOK_slide bd.squares p k _ _ c.king_occ ⟨X, hs, hXp⟩ f dir hdir htr hpath, ms.check,
    not_mem_iff (ms.pin (!f) _), ms.pin, ms.pin]

theorem stage_exact {sq : RBoard} {p : Player} {In Pre Guard : Sq → Sq → Prop} {E : Sq → Sq → Move → Prop}
    (hmem : ∀ s t, In s t ↔ (Pre s t ∧ Guard s t))
    (hleg : ∀ s t, Pre s t → ∀ m, E s t m → (inCheck (applyBoard sq p m) p = false ↔ Guard s t)) (m : Move) :
    (∃ s t, In s t ∧ E s t m) ↔ Class sq p Pre E m := by
  constructor
  · rintro ⟨s, t, hi, hm⟩
    obtain ⟨a, b⟩ := (hmem s t).1 hi
    exact ⟨s, t, a, hm, (hleg s t a m hm).2 b⟩
  · rintro ⟨s, t, a, hm, hl⟩
    exact ⟨s, t, (hmem s t).2 ⟨a, (hleg s t a m hm).1 hl⟩, hm⟩

theorem mem_caps_quiets (bd : Board) (hc : Consistent bd) (p : Player) (A : BB) (D : Sq → BB) (m : Move) :
    m ∈ ((BB.toList A).flatMap fun s => (BB.toList (D s &&& bd.occFor p.other)).map fun d => Move.capture s d) ++
        ((BB.toList A).flatMap fun s => (BB.toList (D s &&& ~~~bd.occupancy)).map fun d => Move.quiet s d) ↔
      ∃ s t, (mem A s = true ∧ mem (D s) t = true) ∧ Lands bd.squares p s t m := by
  rw [List.mem_append, mem_flatMap_map, mem_flatMap_map]
  simp only [mem_and, mem_not, Bool.and_eq_true, Bool.not_eq_true', mem_occFor bd hc, own_other_iff,
    mem_occupancy bd hc, occOf_eq_false, List.mem_singleton]
  constructor
  · rintro (⟨s, t, ⟨hs, hd, pc, hpc, hp⟩, e⟩ | ⟨s, t, ⟨hs, hd, he⟩, e⟩)
    · exact ⟨s, t, ⟨hs, hd⟩, Or.inr ⟨pc, hpc, hp, e⟩⟩
    · exact ⟨s, t, ⟨hs, hd⟩, Or.inl ⟨he, e⟩⟩
  · rintro ⟨s, t, ⟨hs, hd⟩, ⟨he, e⟩ | ⟨pc, hpc, hp, e⟩⟩
    · exact Or.inr ⟨s, t, ⟨hs, hd, he⟩, e⟩
    · exact Or.inl ⟨s, t, ⟨hs, hd, pc, hpc, hp⟩, e⟩

theorem knights_exact {bd : Board} {p : Player} {k : Sq} (c : Ctx bd p k) {cm op dp : BB}
    (ms : MaskSpec bd p k cm op dp) (m : Move) :
    (m ∈ Gen.knightCaptures (bd.knightsOf p) (bd.occFor p.other) cm op dp ++
         Gen.knightQuiets (bd.knightsOf p) bd.occupancy cm op dp) ↔
      RStep bd.squares p .knight knightDeltas m := by
  unfold Gen.knightCaptures Gen.knightQuiets
  rw [mem_caps_quiets bd c.cons p _ (fun n => knightAttacks n &&& cm)]
  refine stage_exact (Guard := fun s t => mem cm t = true ∧ mem (op ||| dp) s = false) ?_ ?_ m
  · intro s t
    rw [mem_and, mem_and, mem_not, Bool.and_eq_true, Bool.and_eq_true, Bool.not_eq_true',
      mem_knightsOf bd c.cons, mem_knightAttacks]
    constructor
    · rintro ⟨⟨a, b⟩, d, e⟩; exact ⟨⟨a, d⟩, e, b⟩
    · rintro ⟨⟨a, d⟩, e, b⟩; exact ⟨⟨a, b⟩, d, e⟩
  · rintro s t ⟨hs, δ, hδ, ho⟩ m hm
    obtain ⟨e1, e2, e3, hte⟩ := hm.plain
    subst e1; subst e2
    rw [plain_move_legal bd.squares p k c.king m ⟨.knight, p⟩ hs rfl (by simp) e3 (c.dst_ne_king _ hte)
      (fun e => knight_offset_ne _ δ hδ (e ▸ ho)), ← ms.check,
      pin_knight bd.squares p k _ _ ⟨_, hs, rfl⟩ dp op ms.diag ms.orth δ hδ ho, mem_or, Bool.or_eq_false_iff]

theorem knight_moves_exact (bd : Board) (p : Player) (k : Sq) (c : Ctx bd p k) (cm op dp : BB)
    (ms : MaskSpec bd p k cm op dp) (m : Move) :
    (m ∈ Gen.knightCaptures (bd.knightsOf p) (bd.occFor p.other) cm op dp ++
         Gen.knightQuiets (bd.knightsOf p) bd.occupancy cm op dp) ↔
    ∃ s, at' bd.squares s = some ⟨.knight, p⟩ ∧ m ∈ stepMoves bd.squares p s knightDeltas ∧
      inCheck (applyBoard bd.squares p m) p = false :=
  (knights_exact c ms m).trans (rStep_iff _ _ _ _ m)

/-- generic form of `Gen.diagSliderDests` and `Gen.orthSliderDests` -/
def sliderDests (att : Sq → BB → BB) (s : Sq) (all cm PS : BB) : BB :=
  let d := att s all &&& cm
  if mem PS s then d &&& PS else d

theorem mem_sliderDests (att : Sq → BB → BB) (s : Sq) (all cm PS : BB) (d : Sq) :
    mem (sliderDests att s all cm PS) d = true ↔
      (mem (att s all) d = true ∧ mem cm d = true ∧ (mem PS s = true → mem PS d = true)) := by
  simp only [sliderDests, mem_pinCut, mem_and, Bool.and_eq_true, and_assoc]

/-- the generic form of `generate_{diagonal,orthogonal}_slider_{captures,quiets}`: `att` is the lookup for
the family `f` the sliders in question move along -/
theorem slider_moves_exact_gen {bd : Board} {p : Player} {k : Sq} (c : Ctx bd p k) {cm op dp : BB}
    (ms : MaskSpec bd p k cm op dp) (f : Bool)
    (att : Sq → BB → BB) (hatt : ∀ s occ, att s occ = slideSpec (fam f) s occ)
    (sliders : BB) (hsl : ∀ s, mem sliders s = true ↔
      (at' bd.squares s = some ⟨famKind f, p⟩ ∨ at' bd.squares s = some ⟨.queen, p⟩)) (m : Move) :
    m ∈ ((BB.toList (sliders &&& ~~~cond (!f) op dp)).flatMap fun s =>
          (BB.toList (sliderDests att s bd.occupancy cm (cond f op dp) &&& bd.occFor p.other)).map fun d =>
            Move.capture s d) ++
        ((BB.toList (sliders &&& ~~~cond (!f) op dp)).flatMap fun s =>
          (BB.toList (sliderDests att s bd.occupancy cm (cond f op dp) &&& ~~~bd.occupancy)).map fun d =>
            Move.quiet s d) ↔
      RSlide bd.squares p (famKind f) (fam f) m := by
  rw [mem_caps_quiets bd c.cons p _ (fun s => sliderDests att s bd.occupancy cm (cond f op dp))]
  refine stage_exact (Guard := fun s t => mem cm t = true ∧ mem (cond (!f) op dp) s = false ∧
    (mem (cond f op dp) s = true → mem (cond f op dp) t = true)) ?_ ?_ m
  · intro s t
    rw [mem_sliderDests, mem_and, mem_not, Bool.and_eq_true, Bool.not_eq_true', hsl, hatt,
      mem_sliderAttacks bd c.cons]
    constructor
    · rintro ⟨⟨a, b⟩, d, e, h⟩; exact ⟨⟨a, d⟩, e, b, h⟩
    · rintro ⟨⟨a, d⟩, e, b, h⟩; exact ⟨⟨a, b⟩, d, e, h⟩
  · rintro s t ⟨hs, dir, hdir, hseen⟩ m hm
    obtain ⟨htr, hpath⟩ := (mem_seen_ray _ s t dir).1 hseen
    obtain ⟨e1, e2, e3, hte⟩ := hm.plain
    have hkF : famKind f ≠ .king := by cases f <;> simp [famKind]
    rcases hs with hs | hs
    · exact ray_move_legal c ms f hs rfl hkF hte hdir htr hpath e1 e2 e3
    · exact ray_move_legal c ms f hs rfl (by simp) hte hdir htr hpath e1 e2 e3

/- The two instances hold by unfolding: the diagonal lists are those of `slider_moves_exact_gen` for `f = false`
(`cond false op dp` is `dp`, `cond (!false) op dp` is `op`), the orthogonal ones those for `f = true`. -/
theorem diagSliders_exact (T : SliderTables) {bd : Board} {p : Player} {k : Sq} (c : Ctx bd p k) {cm op dp : BB}
    (ms : MaskSpec bd p k cm op dp) (m : Move) :
    m ∈ Gen.diagSliderCaptures (bd.diagSliders p) (bd.occFor p.other) bd.occupancy cm op dp ++
        Gen.diagSliderQuiets (bd.diagSliders p) bd.occupancy cm op dp ↔
      RSlide bd.squares p .bishop Dir.diagonal m :=
  slider_moves_exact_gen c ms false bishopAttacks T.bishop _ (mem_diagSliders bd c.cons p) m

theorem orthSliders_exact (T : SliderTables) {bd : Board} {p : Player} {k : Sq} (c : Ctx bd p k) {cm op dp : BB}
    (ms : MaskSpec bd p k cm op dp) (m : Move) :
    m ∈ Gen.orthSliderCaptures (bd.orthSliders p) (bd.occFor p.other) bd.occupancy cm op dp ++
        Gen.orthSliderQuiets (bd.orthSliders p) bd.occupancy cm op dp ↔
      RSlide bd.squares p .rook Dir.cardinal m :=
  slider_moves_exact_gen c ms true rookAttacks T.rook _ (mem_orthSliders bd c.cons p) m

theorem kings_exact (T : SliderTables) (g : Game) (k : Sq) (c : Ctx g.board g.player k) (m : Move) :
    m ∈ Gen.kingCaptures g k (g.board.occFor g.player.other) ++ Gen.kingQuiets g k g.board.occupancy ↔
      RStep g.board.squares g.player .king kingDeltas m := by
  rw [king_moves_exact T g c.cons k c.king m, rStep_iff]
  constructor
  · rintro ⟨a, b⟩; exact ⟨k, (c.king k).2 rfl, a, b⟩
  · rintro ⟨s, hs, a, b⟩
    rw [(c.king s).1 hs] at a
    exact ⟨a, b⟩

end Tcheran
