import TcheranVerif.Proofs.RulesSplit
/-!
# What a pseudo-legal move of the rules looks like (C02, C17, C18)

A legal move is a pseudo-legal move of the man on its source square or castling (`legal_src`); what the first
tells about the board, whatever the kind of the mover, is `PieceMove`, what the second tells is `CastleMove`.  Two
consequences: source, destination and promotion piece determine a legal move (`legal_key_inj`), and a legal move
does not increase the number of men of either colour (`men_apply`: a promotion replaces the pawn, castling moves
the rook).
-/

namespace Tcheran
open Board Game Rules

theorem piece_eq {X : Piece} {k : PieceKind} {pl : Player} : X = ⟨k, pl⟩ ↔ X.kind = k ∧ X.player = pl := by
  obtain ⟨a, b⟩ := X
  simp

theorem quiet_nc (a b : Sq) : (Move.quiet a b).isCastling = false := rfl
theorem capture_nc (a b : Sq) : (Move.capture a b).isCastling = false := rfl
theorem ep_nc (a b : Sq) : (Move.enPassant a b).isCastling = false := rfl

theorem qp_cap (s t : Sq) (pr : Promo) : (Move.quietPromotion s t pr).isCapture = false := by
  cases pr <;> simp [Move.quietPromotion, Move.isCapture, MoveFlag.code]
theorem cp_cap (s t : Sq) (pr : Promo) : (Move.capturePromotion s t pr).isCapture = true := by
  cases pr <;> simp [Move.capturePromotion, Move.isCapture, MoveFlag.code]
theorem quiet_cap (s t : Sq) : (Move.quiet s t).isCapture = false := by
  simp [Move.quiet, Move.isCapture, MoveFlag.code]
theorem capture_cap (s t : Sq) : (Move.capture s t).isCapture = true := by
  simp [Move.capture, Move.isCapture, MoveFlag.code]
theorem ep_cap (s t : Sq) : (Move.enPassant s t).isCapture = true := by
  simp [Move.enPassant, Move.isCapture, MoveFlag.code]

/-- the label a pseudo-legal move of a man must carry, from what the board shows: is the destination occupied,
does a pawn change file, which promotion piece -/
def labelOf (occ diag : Bool) : Option Promo → MoveFlag
  | some .bishop => if occ then .capPromoB else .promoB
  | some .knight => if occ then .capPromoN else .promoN
  | some .rook => if occ then .capPromoR else .promoR
  | some .queen => if occ then .capPromoQ else .promoQ
  | none => if occ then .capture else if diag then .enPassant else .quiet

theorem labelOf_ne_castle (occ diag : Bool) (pr : Option Promo) : labelOf occ diag pr ≠ .castle := by
  cases occ <;> cases diag <;> rcases pr with _ | ⟨_ | _ | _ | _⟩ <;> decide

/-- The label is a function of source, destination, promotion piece and board (`flag`): a pawn push keeps the file
and a pawn capture changes it, which tells an e.p. capture from a push onto the same empty square. -/
structure PieceMove (pos : Pos) (s : Sq) (pc : Piece) (m : Move) : Prop where
  src : m.src = s
  flag : m.flag = labelOf (at' pos.board m.dst).isSome (pc.kind == .pawn && m.dst.file != s.file) m.promotion
  own : ∀ X, at' pos.board m.dst = some X → X.player ≠ pos.player
  promo : m.promotion.isSome = true → pc.kind = .pawn
  ep : m.isEnPassant = true → pc.kind = .pawn ∧ at' pos.board m.dst = none ∧ pos.ep = some m.dst ∧
    ∃ df ∈ ([-1, 1] : List Int), offset s df (fwd pos.player) = some m.dst

theorem PieceMove.nc {pos : Pos} {s : Sq} {pc : Piece} {m : Move} (h : PieceMove pos s pc m) :
    m.isCastling = false := by
  unfold Move.isCastling
  rw [h.flag]
  exact beq_false_of_ne (labelOf_ne_castle _ _ _)

/-- the source holds a man of the mover, the destination does not -/
theorem PieceMove.ne {pos : Pos} {s : Sq} {pc : Piece} {m : Move} (h : PieceMove pos s pc m)
    (ha : at' pos.board s = some pc) (hp : pc.player = pos.player) : m.src ≠ m.dst := by
  intro e
  rw [h.src] at e
  exact h.own pc (e ▸ ha) hp

theorem pieceMoves_pawn (pos : Pos) (s : Sq) {pc : Piece} (hk : pc.kind = .pawn) :
    pieceMoves pos s pc = pawnMoves pos s := by
  unfold pieceMoves
  rw [hk]

/-- `AttacksFrom` is this, read from the target back to the attacker, and the pawn's case. -/
def Reaches (b : RBoard) (k : PieceKind) (s t : Sq) : Prop :=
  (k = .knight ∧ ∃ d ∈ knightDeltas, offset s d.1 d.2 = some t) ∨
  (k = .king ∧ ∃ d ∈ kingDeltas, offset s d.1 d.2 = some t) ∨
  ((k = .bishop ∨ k = .queen) ∧ ∃ d ∈ Dir.diagonal, t ∈ Geometry.seen (occOf b) (ray d s)) ∨
  ((k = .rook ∨ k = .queen) ∧ ∃ d ∈ Dir.cardinal, t ∈ Geometry.seen (occOf b) (ray d s))

theorem nonpawn_move (pos : Pos) (s : Sq) (pc : Piece) (m : Move) (hk : pc.kind ≠ .pawn)
    (hm : m ∈ pieceMoves pos s pc) :
    ∃ t, Reaches pos.board pc.kind s t ∧ Lands pos.board pos.player s t m := by
  obtain ⟨kk, pl⟩ := pc
  unfold pieceMoves at hm
  cases kk <;> simp only at hm hk
  · exact absurd rfl hk
  · obtain ⟨d, hd, t, ho, h⟩ := (mem_stepMoves _ _ _ _ _).1 hm
    exact ⟨t, Or.inl ⟨rfl, d, hd, ho⟩, h⟩
  · obtain ⟨d, hd, h⟩ := List.mem_flatMap.1 hm
    obtain ⟨t, ht, h⟩ := (mem_slideMoves _ _ _ _ _).1 h
    exact ⟨t, Or.inr (Or.inr (Or.inl ⟨Or.inl rfl, d, hd, ht⟩)), h⟩
  · obtain ⟨d, hd, h⟩ := List.mem_flatMap.1 hm
    obtain ⟨t, ht, h⟩ := (mem_slideMoves _ _ _ _ _).1 h
    exact ⟨t, Or.inr (Or.inr (Or.inr ⟨Or.inl rfl, d, hd, ht⟩)), h⟩
  · obtain ⟨d, hd, h⟩ := List.mem_flatMap.1 hm
    obtain ⟨t, ht, h⟩ := (mem_slideMoves _ _ _ _ _).1 h
    rcases Geo.dir_family d with ⟨hc, _⟩ | ⟨hdg, _⟩
    · exact ⟨t, Or.inr (Or.inr (Or.inr ⟨Or.inr rfl, d, hc, ht⟩)), h⟩
    · exact ⟨t, Or.inr (Or.inr (Or.inl ⟨Or.inr rfl, d, hdg, ht⟩)), h⟩
  · obtain ⟨d, hd, t, ho, h⟩ := (mem_stepMoves _ _ _ _ _).1 hm
    exact ⟨t, Or.inr (Or.inl ⟨rfl, d, hd, ho⟩), h⟩

/-- `hd`: the mover is not a pawn, or stays on its file -/
theorem PieceMove.quiet {pos : Pos} {s t : Sq} {pc : Piece} (he : at' pos.board t = none)
    (hd : (pc.kind == .pawn && t.file != s.file) = false) : PieceMove pos s pc (Move.quiet s t) where
  src := rfl
  flag := by
    show MoveFlag.quiet = labelOf (at' pos.board t).isSome (pc.kind == .pawn && t.file != s.file) none
    rw [he, hd]
    rfl
  own X hX := by rw [show (Move.quiet s t).dst = t from rfl, he] at hX; cases hX
  promo h := by cases h
  ep h := by cases h

theorem PieceMove.capture {pos : Pos} {s t : Sq} {pc X : Piece} (hX : at' pos.board t = some X)
    (hp : X.player ≠ pos.player) : PieceMove pos s pc (Move.capture s t) where
  src := rfl
  flag := by
    show MoveFlag.capture = labelOf (at' pos.board t).isSome _ none
    rw [hX]
    rfl
  own X' hX' := by rw [show (Move.capture s t).dst = t from rfl, hX] at hX'; cases hX'; exact hp
  promo h := by cases h
  ep h := by cases h

theorem piece_move_facts (pos : Pos) (s : Sq) (pc : Piece) (m : Move) (hm : m ∈ pieceMoves pos s pc) :
    PieceMove pos s pc m := by
  by_cases hk : pc.kind = .pawn
  · have hm' : m ∈ pawnMoves pos s := pieceMoves_pawn pos s hk ▸ hm
    have push : ∀ t dr, offset s 0 dr = some t → (pc.kind == .pawn && t.file != s.file) = false := by
      intro t dr ho
      have := (offset_iff.1 ho).1
      simp
      omega
    rcases (mem_pawnMoves pos s m).1 hm' with ⟨t1, ho1, he, h⟩ | ⟨df, hdf, t, ho, h⟩
    · rcases h with ⟨_, pr, _, rfl⟩ | ⟨_, rfl⟩ | ⟨_, t2, ho2, he2, rfl⟩
      · exact { src := qp_src _ _ _, promo := fun _ => hk
                flag := by rw [qp_dst, he]; cases pr <;> rfl
                own := fun X hX => by rw [qp_dst, he] at hX; cases hX
                ep := fun h => by cases pr <;> cases h }
      · exact .quiet he (push t1 _ ho1)
      · exact .quiet he2 (push t2 _ ho2)
    · rcases h with ⟨X, hX, hp, ⟨_, pr, _, rfl⟩ | ⟨_, rfl⟩⟩ | ⟨he, hep, rfl⟩
      · exact { src := cp_src _ _ _, promo := fun _ => hk
                flag := by rw [cp_dst, hX]; cases pr <;> rfl
                own := fun X' hX' => by rw [cp_dst, hX] at hX'; cases hX'; exact hp
                ep := fun h => by cases pr <;> cases h }
      · exact .capture hX hp
      · have hd : (t.file != s.file) = true := by
          have := (offset_iff.1 ho).1
          simp only [List.mem_cons, List.mem_nil_iff, or_false] at hdf
          simp
          omega
        exact { src := rfl, promo := fun _ => hk
                flag := by
                  show MoveFlag.enPassant = labelOf (at' pos.board t).isSome (pc.kind == .pawn && t.file != s.file) none
                  rw [he, hk, hd]
                  rfl
                own := fun X hX => by rw [show (Move.enPassant s t).dst = t from rfl, he] at hX; cases hX
                ep := fun _ => ⟨hk, he, hep, df, hdf, ho⟩ }
  · have hkb : ∀ t : Sq, (pc.kind == .pawn && t.file != s.file) = false := fun t => by simp [hk]
    obtain ⟨t, _, ⟨he, rfl⟩ | ⟨X, hX, hp, rfl⟩⟩ := nonpawn_move pos s pc m hk hm
    · exact .quiet he (hkb t)
    · exact .capture hX hp

theorem pawn_shape (pos : Pos) (s : Sq) (m : Move) (h : m ∈ pawnMoves pos s) :
    m.src = s ∧
    ((m.isCapture = false ∧ at' pos.board m.dst = none ∧
        (offset s 0 (fwd pos.player) = some m.dst ∨
         (offset s 0 (2 * fwd pos.player) = some m.dst ∧ m = Move.quiet s m.dst ∧
           ∃ t1, offset s 0 (fwd pos.player) = some t1 ∧ at' pos.board t1 = none))) ∨
     (m.isCapture = true ∧ ∃ df ∈ ([-1, 1] : List Int), offset s df (fwd pos.player) = some m.dst ∧
        ((∃ pc, at' pos.board m.dst = some pc) ∨ (at' pos.board m.dst = none ∧ pos.ep = some m.dst)))) := by
  rcases (mem_pawnMoves pos s m).1 h with ⟨t1, o1, e1, h1⟩ | ⟨df, hdf, t, o, h1⟩
  · rcases h1 with ⟨_, pr, _, q⟩ | ⟨_, q⟩ | ⟨_, t2, o2, e2, q⟩
    · subst q
      exact ⟨qp_src _ _ _, Or.inl ⟨qp_cap _ _ _, by rw [qp_dst]; exact e1, Or.inl (by rw [qp_dst]; exact o1)⟩⟩
    · subst q
      exact ⟨rfl, Or.inl ⟨quiet_cap _ _, e1, Or.inl o1⟩⟩
    · subst q
      exact ⟨rfl, Or.inl ⟨quiet_cap _ _, e2, Or.inr ⟨o2, rfl, t1, o1, e1⟩⟩⟩
  · rcases h1 with ⟨pc, hpc, _, ⟨_, pr, _, q⟩ | ⟨_, q⟩⟩ | ⟨hn, hep, q⟩
    · subst q
      exact ⟨cp_src _ _ _, Or.inr ⟨cp_cap _ _ _, df, hdf, by rw [cp_dst]; exact o, Or.inl ⟨pc, by rw [cp_dst]; exact hpc⟩⟩⟩
    · subst q
      exact ⟨rfl, Or.inr ⟨capture_cap _ _, df, hdf, o, Or.inl ⟨pc, hpc⟩⟩⟩
    · subst q
      exact ⟨rfl, Or.inr ⟨ep_cap _ _, df, hdf, o, Or.inr ⟨hn, hep⟩⟩⟩

theorem pawn_two_ranks (pos : Pos) (s : Sq) (m : Move) (hm : m ∈ pawnMoves pos s)
    (hr : (m.dst.rank : Int) = s.rank + 2 * fwd pos.player) :
    ∃ t1, offset s 0 (fwd pos.player) = some t1 ∧ at' pos.board t1 = none ∧
      offset s 0 (2 * fwd pos.player) = some m.dst ∧ m = Move.quiet s m.dst := by
  obtain ⟨_, ⟨_, _, ho | ⟨ho2, e, t1, ho1, he1⟩⟩ | ⟨_, df, _, ho, _⟩⟩ := pawn_shape pos s m hm
  · exact absurd hr (single_step_rank s m.dst _ 0 ho)
  · exact ⟨t1, ho1, he1, ho2, e⟩
  · exact absurd hr (single_step_rank s m.dst _ df ho)

/-- walking back from the destination of a push, the source is the first occupied square -/
theorem push_behind (pos : Pos) (s : Sq) (m : Move) (hm : m ∈ pawnMoves pos s) (hc : m.isCapture = false) :
    at' pos.board m.dst = none ∧ ∃ v, offset m.dst 0 (-(fwd pos.player)) = some v ∧
      (v = s ∨ (at' pos.board v = none ∧ offset v 0 (-(fwd pos.player)) = some s)) := by
  obtain ⟨_, ⟨_, he, o1 | ⟨o2, _, t1, o1, e1⟩⟩ | ⟨hc', _⟩⟩ := pawn_shape pos s m hm
  · exact ⟨he, s, offset_neg _ _ _ _ o1, Or.inl rfl⟩
  · refine ⟨he, t1, ?_, Or.inr ⟨e1, offset_neg _ _ _ _ o1⟩⟩
    rw [offset_iff] at o1 o2 ⊢
    omega
  · rw [hc] at hc'; cases hc'

/-- `rf`, `rt` are the rook's squares -/
structure CastleMove (b : RBoard) (p : Player) (m : Move) (rf rt : Sq) : Prop where
  eq : m = Move.castles (kingStart p) m.dst
  king : at' b (kingStart p) = some ⟨.king, p⟩
  squares : castleSquares p m.dst = some (rf, rt)
  rook : at' b rf = some ⟨.rook, p⟩
  dst_empty : at' b m.dst = none
  rt_empty : at' b rt = none
  ks_dst : kingStart p ≠ m.dst
  rf_ks : rf ≠ kingStart p
  rf_dst : rf ≠ m.dst
  rt_ks : rt ≠ kingStart p
  rt_dst : rt ≠ m.dst
  rf_rt : rf ≠ rt

theorem CastleMove.src {b : RBoard} {p : Player} {m : Move} {rf rt : Sq} (h : CastleMove b p m rf rt) :
    m.src = kingStart p := by
  rw [h.eq]; rfl

theorem castleSquares_ne {p : Player} {d rf rt : Sq} (h : castleSquares p d = some (rf, rt)) :
    kingStart p ≠ d ∧ rf ≠ kingStart p ∧ rf ≠ d ∧ rt ≠ kingStart p ∧ rt ≠ d ∧ rf ≠ rt := by
  unfold castleSquares at h
  split at h
  · cases h
    subst d
    cases p <;> decide
  · split at h
    · cases h
      subst d
      cases p <;> decide
    · cases h

/-- one of the four lists of `castleMoves_eq`: the squares that have to be empty include the king's destination and
the rook's -/
theorem CastleMove.of_mem {b : RBoard} {p : Player} {right : Bool} {rf dst : Sq} {emp path : List Sq} {m : Move}
    (rt : Sq) (h : m ∈ castleMk b p (kingStart p) right rf emp path dst)
    (hsq : castleSquares p dst = some (rf, rt)) (hd : dst ∈ emp) (ht : rt ∈ emp) : CastleMove b p m rf rt := by
  obtain ⟨rfl, _, hk, hrk, hemp, _⟩ := (mem_castleMk _ _ _ _ _ _ _ _ _).1 h
  obtain ⟨n1, n2, n3, n4, n5, n6⟩ := castleSquares_ne hsq
  exact ⟨rfl, hk, hsq, hrk, hemp _ hd, hemp _ ht, n1, n2, n3, n4, n5, n6⟩

theorem castle_move_facts (pos : Pos) (m : Move) (h : m ∈ castleMoves pos) :
    ∃ rf rt, CastleMove pos.board pos.player m rf rt := by
  rw [castleMoves_eq] at h
  cases hp : pos.player <;> rw [hp] at h <;> rcases List.mem_append.1 h with h | h
  · exact ⟨H1, F1, .of_mem F1 h rfl (by simp) (by simp)⟩
  · exact ⟨A1, D1, .of_mem D1 h rfl (by simp) (by simp)⟩
  · exact ⟨H8, F8, .of_mem F8 h rfl (by simp) (by simp)⟩
  · exact ⟨A8, D8, .of_mem D8 h rfl (by simp) (by simp)⟩

theorem legal_src (pos : Pos) (m : Move) (hm : m ∈ legalMoves pos) :
    ∃ pc, at' pos.board m.src = some pc ∧ pc.player = pos.player ∧
      (m ∈ pieceMoves pos m.src pc ∨
        (pc = ⟨.king, pos.player⟩ ∧ ∃ rf rt, CastleMove pos.board pos.player m rf rt)) := by
  obtain ⟨hps, _⟩ := (mem_legalMoves_iff pos m).1 hm
  rcases hps with ⟨s, pc, ha, hp, hmv⟩ | hc
  · have := (piece_move_facts pos s pc m hmv).src
    subst this
    exact ⟨pc, ha, hp, Or.inl hmv⟩
  · obtain ⟨rf, rt, cm⟩ := castle_move_facts pos m hc
    exact ⟨_, cm.src ▸ cm.king, rfl, Or.inr ⟨rfl, rf, rt, cm⟩⟩

theorem legal_pawn (pos : Pos) (m : Move) (hm : m ∈ legalMoves pos) (pc : Piece)
    (ha : at' pos.board m.src = some pc) (hk : pc.kind = .pawn) :
    pc = ⟨.pawn, pos.player⟩ ∧ m ∈ pawnMoves pos m.src := by
  obtain ⟨pc', ha', hp, h⟩ := legal_src pos m hm
  cases ha.symm.trans ha'
  refine ⟨piece_eq.2 ⟨hk, hp⟩, ?_⟩
  rcases h with h | ⟨h, _⟩
  · exact pieceMoves_pawn pos m.src hk ▸ h
  · rw [h] at hk
    cases hk

theorem king_step_not_castle (p : Player) : ∀ d ∈ kingDeltas,
    (offset (kingStart p) d.1 d.2).bind (castleSquares p) = none := by cases p <;> decide

/-- the label is a function of destination, promotion and the board (`PieceMove.flag`) -/
theorem piece_key_inj (pos : Pos) (s : Sq) (pc : Piece) (a b : Move)
    (ha : a ∈ pieceMoves pos s pc) (hb : b ∈ pieceMoves pos s pc)
    (hd : a.dst = b.dst) (hp : a.promotion = b.promotion) : a = b := by
  have pa := piece_move_facts pos s pc a ha
  have pb := piece_move_facts pos s pc b hb
  have hf : a.flag = b.flag := by rw [pa.flag, pb.flag, hd, hp]
  have hs : a.src = b.src := pa.src.trans pb.src.symm
  cases a
  cases b
  simp only at hd hf hs
  rw [hd, hf, hs]

/-- the man would be the king on its home square, and a king step from there does not reach a castling
destination -/
theorem piece_castle_clash (pos : Pos) (s : Sq) (pc : Piece) (a b : Move) (hat : at' pos.board s = some pc)
    (ha : a ∈ pieceMoves pos s pc) (hb : b ∈ castleMoves pos) (hs : a.src = b.src) (hd : a.dst = b.dst) :
    False := by
  obtain ⟨_, _, cm⟩ := castle_move_facts pos b hb
  have : s = kingStart pos.player := by rw [← (piece_move_facts pos s pc a ha).src, hs, cm.src]
  subst this
  cases hat.symm.trans cm.king
  unfold pieceMoves at ha
  simp only at ha
  obtain ⟨d, hdd, t, ho, h⟩ := (mem_stepMoves _ _ _ _ _).1 ha
  have hk := king_step_not_castle pos.player d hdd
  rw [ho, Option.bind_some, ← (Lands.plain h).2.1, hd, cm.squares] at hk
  cases hk

theorem pseudo_key_inj (pos : Pos) (a b : Move) (ha : a ∈ pseudoMoves pos) (hb : b ∈ pseudoMoves pos)
    (hs : a.src = b.src) (hd : a.dst = b.dst) (hp : a.promotion = b.promotion) : a = b := by
  rcases (mem_pseudoMoves pos a).1 ha with ⟨s, pc, hat, hpl, hma⟩ | hca <;>
    rcases (mem_pseudoMoves pos b).1 hb with ⟨s', pc', hat', hpl', hmb⟩ | hcb
  · have e1 := (piece_move_facts pos s pc a hma).src
    have e2 := (piece_move_facts pos s' pc' b hmb).src
    have : s = s' := by rw [← e1, ← e2]; exact hs
    subst this
    rw [hat] at hat'
    cases hat'
    exact piece_key_inj pos s pc a b hma hmb hd hp
  · exact (piece_castle_clash pos s pc a b hat hma hcb hs hd).elim
  · exact (piece_castle_clash pos s' pc' b a hat' hmb hca hs.symm hd.symm).elim
  · obtain ⟨_, _, ca⟩ := castle_move_facts pos a hca
    obtain ⟨_, _, cb⟩ := castle_move_facts pos b hcb
    rw [ca.eq, cb.eq, hd]

theorem legal_key_inj (pos : Pos) (a b : Move) (ha : a ∈ legalMoves pos) (hb : b ∈ legalMoves pos)
    (hs : a.src = b.src) (hd : a.dst = b.dst) (hp : a.promotion = b.promotion) : a = b := by
  unfold legalMoves at ha hb
  exact pseudo_key_inj pos a b (List.mem_filter.1 ha).1 (List.mem_filter.1 hb).1 hs hd hp

theorem any_ite (o : Option Piece) (f : Piece → Bool) : (if o.any f then 1 else 0 : Nat) ≤ 1 := by
  split <;> omega

theorem filter_setSq (b : RBoard) (s : Sq) (v : Option Piece) (f : Piece → Bool) (l : List Sq) (hn : l.Nodup) :
    (l.filter fun t => (at' (setSq b s v) t).any f).length + (if s ∈ l ∧ (at' b s).any f then 1 else 0) =
    (l.filter fun t => (at' b t).any f).length + (if s ∈ l ∧ v.any f then 1 else 0) := by
  induction l with
  | nil => simp
  | cons x xs ih =>
    have hx := List.nodup_cons.1 hn
    have ih := ih hx.2
    simp only [List.filter_cons, List.mem_cons]
    by_cases hxs : x = s
    · subst hxs
      have hnot : x ∉ xs := hx.1
      simp only [hnot, false_and, if_false, Nat.add_zero] at ih
      rw [at_setSq]
      simp only [if_true, true_or, true_and]
      cases h1 : v.any f <;> cases h2 : (at' b x).any f <;> simp <;> omega
    · have hsx : ¬ s = x := fun e => hxs e.symm
      rw [at_setSq]
      simp only [if_neg hxs, hsx, false_or]
      cases h2 : (at' b x).any f <;> simp <;> omega

theorem count_setSq (b : RBoard) (s : Sq) (v : Option Piece) (f : Piece → Bool) :
    count (setSq b s v) f + ((at' b s).any f).toNat = count b f + (v.any f).toNat := by
  have := filter_setSq b s v f (List.finRange 64) (List.nodup_finRange 64)
  simp only [List.mem_finRange, true_and] at this
  unfold count
  cases h1 : (at' b s).any f <;> cases h2 : v.any f <;> simp [h1, h2] at this ⊢ <;> omega

theorem count_setSq_none_le (b : RBoard) (s : Sq) (f : Piece → Bool) : count (setSq b s none) f ≤ count b f := by
  have := count_setSq b s none f
  simp only [Option.any_none, Bool.toNat_false, Nat.add_zero] at this
  omega

theorem count_move_le (b : RBoard) (s t : Sq) (X Y : Piece) (f : Piece → Bool) (hs : at' b s = some X)
    (hf : f Y = f X) : count (setSq (setSq b s none) t (some Y)) f ≤ count b f := by
  have h1 := count_setSq b s none f
  have h2 := count_setSq (setSq b s none) t (some Y) f
  rw [hs] at h1
  simp only [Option.any_some, Option.any_none, Bool.toNat_false, Nat.add_zero, hf] at h1 h2
  omega

def ofColour (pl : Player) (pc : Piece) : Bool := pc.player == pl

theorem men_apply (pos : Pos) (m : Move) (hl : m ∈ legalMoves pos) (pl : Player) :
    count (Rules.apply pos m).board (ofColour pl) ≤ count pos.board (ofColour pl) := by
  show count (applyBoard pos.board pos.player m) (ofColour pl) ≤ _
  obtain ⟨moved, ha, hp, h⟩ := legal_src pos m hl
  unfold applyBoard
  rw [ha]
  simp only
  have hb2 : count (setSq (setSq pos.board m.src none) m.dst (some (match m.promotion with
      | some pr => ⟨pr.piece, pos.player⟩ | none => moved))) (ofColour pl) ≤ count pos.board (ofColour pl) :=
    count_move_le _ _ _ moved _ _ ha (by unfold ofColour; cases m.promotion <;> simp [hp])
  rcases h with hm | ⟨_, rf, rt, cm⟩
  · -- a man's move: at most the pawn taken en passant goes as well
    rw [(piece_move_facts pos m.src moved m hm).nc, if_neg Bool.false_ne_true]
    split
    · split
      · exact Nat.le_trans (count_setSq_none_le _ _ _) hb2
      · exact hb2
    · exact hb2
  · -- castling: the rook lifted from `rf` and set down on `rt`
    have hnep : m.isEnPassant = false := by rw [cm.eq]; rfl
    have hc : m.isCastling = true := by rw [cm.eq]; rfl
    have hrook : ∀ v, at' (setSq (setSq pos.board m.src none) m.dst v) rf = some ⟨.rook, pos.player⟩ := fun v => by
      rw [at_setSq, if_neg cm.rf_dst, at_setSq, if_neg (cm.src ▸ cm.rf_ks)]
      exact cm.rook
    simp only [hnep, hc, cm.squares, Bool.false_eq_true, if_false, if_true]
    exact Nat.le_trans (count_move_le _ rf rt _ _ _ (hrook _) rfl) hb2

end Tcheran
