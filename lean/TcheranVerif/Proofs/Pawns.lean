import TcheranVerif.Proofs.Classes
/-!
# Pawns: pushes, double pushes, captures and promotions (C01; en passant is in `EnPassant.lean`)

Promotion pushes and single pushes are one statement (`push_stage`), promoting and plain captures another
(`cap_stage`); each is `stage_exact` with `ray_move_legal` along the file resp. a diagonal. On a promotion
push the engine tests `!orthPins(pawn)` where the others test "stays in the mask": `promo_push_pin`.
-/

namespace Tcheran
open Board Geometry Rules

/-- an orthogonally pinned pawn never promotes by a push -/
theorem promo_push_pin (bd : Board) (p : Player) (k : Sq) (c : Ctx bd p k) (cm op dp : BB)
    (ms : MaskSpec bd p k cm op dp) (s t : Sq)
    (hs : at' bd.squares s = some ⟨.pawn, p⟩) (hf : s.forward p = some t) (he : at' bd.squares t = none)
    (hrank : t.rank = promoRank p) (hdp : mem dp s = false) :
    (mem op s = true → mem op t = true) ↔ mem op s = false := by
  refine ⟨fun himp => ?_, fun h e => by rw [h] at e; cases e⟩
  have hsown : Own bd.squares p s := ⟨_, hs, rfl⟩
  refine (not_mem_iff (ms.pin true s)).2 fun hP => ?_
  obtain ⟨q, hq, hsb, hth⟩ := (pinLine_own hsown).1 hP
  -- the pawn is on the file between the king and a rook-like pinner `q`; staying in the mask means that
  -- `t` is `q` (but `t` is empty) or between king and `q` (but `t` is on the last rank)
  have hpin := (pinOK_slide bd.squares p k s t c.king_occ hsown true (fdir p) (Geo.fdir_mem_cardinal p)
    (Geo.forward_on_ray hf).1 (by simp [(Geo.forward_on_ray hf).2])).2
    ⟨(not_mem_iff (ms.pin false s)).1 hdp, fun h => (ms.pin true t).1 (himp ((ms.pin true s).2 h))⟩
  rcases pinOK_iff.1 hpin true q hq hsb hth with e | e
  · have := hq.own.occ
    rw [e, occOf_eq_false.2 he] at this; cases this
  · obtain ⟨dir, hd, hqr⟩ := hq.2
    exact Geo.promo_pin k dir hd q hqr s hsb p t hf e hrank

theorem mem_canPushOnce (bd : Board) (hc : Consistent bd) (p : Player) (cm dp : BB) (s : Sq) :
    mem (Gen.pawnCanPushOnce p (bd.pawnsOf p) bd.occupancy cm dp) s = true ↔
      (at' bd.squares s = some ⟨.pawn, p⟩ ∧ mem dp s = false ∧
        ∃ t, s.forward p = some t ∧ at' bd.squares t = none ∧ mem cm t = true) := by
  simp only [Gen.pawnCanPushOnce, mem_and, mem_not, Bool.and_eq_true, Bool.not_eq_true', mem_pawnsOf bd hc,
    mem_backward, mem_occupancy bd hc, occOf_eq_false, and_assoc]

theorem mem_canPushTwice (bd : Board) (hc : Consistent bd) (p : Player) (cm dp : BB) {s f1 f2 : Sq}
    (e1 : s.forward p = some f1) (e2 : f1.forward p = some f2) :
    mem (pawnCanPushTwice p (bd.pawnsOf p) bd.occupancy cm dp) s = true ↔
      (at' bd.squares s = some ⟨.pawn, p⟩ ∧ mem dp s = false ∧ s.rank = startRank p ∧
        at' bd.squares f1 = none ∧ at' bd.squares f2 = none ∧ mem cm f2 = true) := by
  simp only [pawnCanPushTwice, mem_and, mem_not, Bool.and_eq_true, Bool.not_eq_true', mem_backward_of_forward _ e1,
    mem_backward_of_forward _ e2, mem_pawnsOf bd hc, pawnHome_eq, Geo.mem_pawnHome, decide_eq_true_eq,
    mem_occupancy bd hc, occOf_eq_false, and_assoc]

theorem mem_capTargets (bd : Board) (hc : Consistent bd) (p : Player) (cm dp : BB) (s t : Sq) :
    mem ((if mem dp s then pawnAttacks s p &&& dp else pawnAttacks s p) &&& (bd.occFor p.other &&& cm)) t = true ↔
      ((∃ df ∈ ([-1, 1] : List Int), offset s df (fwd p) = some t) ∧
        (mem dp s = true → mem dp t = true) ∧
        (∃ pc, at' bd.squares t = some pc ∧ pc.player ≠ p) ∧ mem cm t = true) := by
  simp only [mem_and, mem_pinCut, Bool.and_eq_true, mem_occFor bd hc, own_other_iff, mem_pawnAttacks,
    List.mem_cons, List.not_mem_nil, or_false, exists_eq_or_imp, exists_eq_left, and_assoc]

/-- `R` is the rank mask, `tst` the engine's pin test, `E` what is pushed; `htst` says that on the pawns in
question the pin test is the file-pin condition -/
theorem push_stage {bd : Board} {p : Player} {k : Sq} (c : Ctx bd p k) {cm op dp : BB}
    (ms : MaskSpec bd p k cm op dp) (R : BB) (tst : Sq → Sq → Bool) (E : Sq → Sq → List Move)
    (hE : ∀ s t, ∀ m ∈ E s t, m.src = s ∧ m.dst = t ∧ m.Plain)
    (htst : ∀ s t, PushPre bd.squares p R s t → mem dp s = false →
      (tst s t = true ↔ (mem op s = true → mem op t = true)))
    (m : Move) :
    m ∈ (pushList (fwdD p) (Gen.pawnCanPushOnce p (bd.pawnsOf p) bd.occupancy cm dp &&& R) tst E).flatten ↔
      Class bd.squares p (PushPre bd.squares p R) (fun s t m => m ∈ E s t) m := by
  rw [mem_pushList]
  refine stage_exact
    (Guard := fun s t => mem cm t = true ∧ mem dp s = false ∧ (mem op s = true → mem op t = true)) ?_ ?_ m
  · intro s t
    rw [mem_and, Bool.and_eq_true, mem_canPushOnce bd c.cons]
    constructor
    · rintro ⟨⟨⟨hs, hdp, t', hf, he, hcm⟩, hR⟩, e, ht⟩
      rw [fwdD_eq hf] at e
      subst e
      exact ⟨⟨hs, hf, he, hR⟩, hcm, hdp, (htst s t ⟨hs, hf, he, hR⟩ hdp).1 ht⟩
    · rintro ⟨⟨hs, hf, he, hR⟩, hcm, hdp, himp⟩
      exact ⟨⟨⟨hs, hdp, t, hf, he, hcm⟩, hR⟩, (fwdD_eq hf).symm, (htst s t ⟨hs, hf, he, hR⟩ hdp).2 himp⟩
  · rintro s t ⟨hs, hf, he, _⟩ m hm
    obtain ⟨e1, e2, e3⟩ := hE s t m hm
    exact ray_move_legal c ms true hs rfl (by simp) (Or.inl he) (Geo.fdir_mem_cardinal p) (Geo.forward_on_ray hf).1
      (by simp [(Geo.forward_on_ray hf).2]) e1 e2 e3

theorem promoPushes_exact {bd : Board} {p : Player} {k : Sq} (c : Ctx bd p k) {cm op dp : BB}
    (ms : MaskSpec bd p k cm op dp) (which : List Promo) (m : Move) :
    m ∈ (promoPushes p which (bd.pawnsOf p) bd.occupancy cm op dp).flatten ↔ RPromoPush bd.squares p which m :=
  push_stage c ms _ _ _
    (fun s t m hm => by
      obtain ⟨pr, _, e⟩ := List.mem_map.1 hm
      rw [← e]; exact ⟨qp_src _ _ _, qp_dst _ _ _, qp_plain _ _ _⟩)
    (fun s t ⟨hs, hf, he, hR⟩ hdp => by
      rw [promo_push_pin bd p k c cm op dp ms s t hs hf he ((push_promo_rank hf).1 hR) hdp]
      simp) m

theorem singlePushes_exact {bd : Board} {p : Player} {k : Sq} (c : Ctx bd p k) {cm op dp : BB}
    (ms : MaskSpec bd p k cm op dp) (m : Move) :
    m ∈ (singlePushes p (bd.pawnsOf p) bd.occupancy cm op dp).flatten ↔ RSingle bd.squares p m :=
  push_stage c ms _ _ _ (fun s t m hm => by rw [List.mem_singleton.1 hm]; exact ⟨rfl, rfl, plain_quiet s t⟩)
    (fun _ _ _ _ => imp_bool _ _) m

theorem singlePushes_spec (bd : Board) (p : Player) (k : Sq) (c : Ctx bd p k) (cm op dp : BB)
    (ms : MaskSpec bd p k cm op dp) :
    ∃ L, Gen.pawnSinglePushes p (bd.pawnsOf p) bd.occupancy cm op dp = some L ∧
      ∀ m, m ∈ L.flatten ↔ ∃ s t1, at' bd.squares s = some ⟨.pawn, p⟩ ∧ offset s 0 (fwd p) = some t1 ∧
        at' bd.squares t1 = none ∧ t1.rank ≠ promoRank p ∧ m = Move.quiet s t1 ∧
        inCheck (applyBoard bd.squares p m) p = false := by
  refine ⟨_, pawnSinglePushes_eq _ _ _ _ _ _, fun m => (singlePushes_exact c ms m).trans ?_⟩
  constructor
  · rintro ⟨s, t, ⟨hs, hf, he, hR⟩, hm, hl⟩
    exact ⟨s, t, hs, (Geo.forward_eq_offset s p).symm.trans hf, he, (mem_not_iff (push_promo_rank hf)).1 hR,
      List.mem_singleton.1 hm, hl⟩
  · rintro ⟨s, t, hs, ho, he, hR, e, hl⟩
    have hf := (Geo.forward_eq_offset s p).trans ho
    exact ⟨s, t, ⟨hs, hf, he, (mem_not_iff (push_promo_rank hf)).2 hR⟩, List.mem_singleton.2 e, hl⟩

theorem doublePushes_exact {bd : Board} {p : Player} {k : Sq} (c : Ctx bd p k) {cm op dp : BB}
    (ms : MaskSpec bd p k cm op dp) (m : Move) :
    m ∈ (doublePushes p (bd.pawnsOf p) bd.occupancy cm op dp).flatten ↔ RDouble bd.squares p m := by
  unfold doublePushes
  rw [mem_pushList]
  refine stage_exact
    (Guard := fun s t => mem cm t = true ∧ mem dp s = false ∧ (mem op s = true → mem op t = true)) ?_ ?_ m
  · intro s t
    constructor
    · rintro ⟨hA, e, ht⟩
      obtain ⟨e1, e2⟩ := canPushTwice_forward hA
      rw [← e] at e2
      obtain ⟨hs, hdp, hr, he1, he2, hcm⟩ := (mem_canPushTwice bd c.cons p cm dp e1 e2).1 hA
      exact ⟨⟨hs, hr, _, e1, e2, he1, he2⟩, hcm, hdp, (imp_bool _ _).1 ht⟩
    · rintro ⟨⟨hs, hr, f1, e1, e2, he1, he2⟩, hcm, hdp, himp⟩
      exact ⟨(mem_canPushTwice bd c.cons p cm dp e1 e2).2 ⟨hs, hdp, hr, he1, he2, hcm⟩,
        by rw [fwdD_eq e1, fwdD_eq e2], (imp_bool _ _).2 himp⟩
  · rintro s t ⟨hs, _, f1, e1, e2, he1, he2⟩ m hm
    rw [List.mem_singleton.1 hm]
    refine ray_move_legal c ms true hs rfl (by simp) (Or.inl he2) (Geo.fdir_mem_cardinal p)
      (Geo.double_on_ray e1 e2).1 ?_ rfl rfl (plain_quiet s t)
    rw [(Geo.double_on_ray e1 e2).2]
    intro x hx
    rw [List.mem_singleton.1 hx]
    exact occOf_eq_false.2 he1

/-- `R` the rank mask, `E` what is pushed -/
theorem cap_stage {bd : Board} {p : Player} {k : Sq} (c : Ctx bd p k) {cm op dp : BB}
    (ms : MaskSpec bd p k cm op dp) (R : BB) (E : Sq → Sq → List Move)
    (hE : ∀ s t, ∀ m ∈ E s t, m.src = s ∧ m.dst = t ∧ m.Plain) (m : Move) :
    (∃ s t, (mem (bd.pawnsOf p &&& ~~~op &&& R) s = true ∧
        mem ((if mem dp s then pawnAttacks s p &&& dp else pawnAttacks s p) &&& (bd.occFor p.other &&& cm)) t = true) ∧
        m ∈ E s t) ↔
      Class bd.squares p (CapPre bd.squares p R) (fun s t m => m ∈ E s t) m := by
  refine stage_exact
    (Guard := fun s t => mem cm t = true ∧ mem op s = false ∧ (mem dp s = true → mem dp t = true)) ?_ ?_ m
  · intro s t
    rw [mem_capTargets bd c.cons]
    simp only [mem_and, mem_not, Bool.and_eq_true, Bool.not_eq_true', mem_pawnsOf bd c.cons]
    constructor
    · rintro ⟨⟨⟨hs, hop⟩, hR⟩, ho, himp, hte, hcm⟩
      exact ⟨⟨hs, ho, hte, hR⟩, hcm, hop, himp⟩
    · rintro ⟨⟨hs, ho, hte, hR⟩, hcm, hop, himp⟩
      exact ⟨⟨⟨hs, hop⟩, hR⟩, ho, himp, hte, hcm⟩
  · rintro s t ⟨hs, ⟨df, hdf, ho⟩, hte, _⟩ m hm
    obtain ⟨e1, e2, e3⟩ := hE s t m hm
    obtain ⟨⟨dir, hdir, htr⟩, hbl⟩ := Geo.capture_on_ray hdf ho
    exact ray_move_legal c ms false hs rfl (by simp) (Or.inr hte) hdir htr
      (by simp [hbl]) e1 e2 e3

theorem promoCaptures_exact {bd : Board} {p : Player} {k : Sq} (c : Ctx bd p k) {cm op dp : BB}
    (ms : MaskSpec bd p k cm op dp) (m : Move) :
    m ∈ Gen.pawnPromoCaptures p (bd.pawnsOf p) (bd.occFor p.other) cm op dp ↔ RPromoCap bd.squares p m := by
  unfold Gen.pawnPromoCaptures
  rw [mem_flatMap_flatMap]
  exact cap_stage c ms _ _
    (fun s t m hm => by
      obtain ⟨pr, _, e⟩ := List.mem_map.1 hm
      rw [← e]; exact ⟨cp_src _ _ _, cp_dst _ _ _, cp_plain _ _ _⟩) m

theorem plainCaptures_exact {bd : Board} {p : Player} {k : Sq} (c : Ctx bd p k) {cm op dp : BB}
    (ms : MaskSpec bd p k cm op dp) (m : Move) :
    m ∈ Gen.pawnPlainCaptures p (bd.pawnsOf p) (bd.occFor p.other) cm op dp ↔ RPlainCap bd.squares p m := by
  unfold Gen.pawnPlainCaptures
  rw [mem_flatMap_map]
  exact cap_stage c ms _ _
    (fun s t m hm => by rw [List.mem_singleton.1 hm]; exact ⟨rfl, rfl, plain_capture s t⟩) m

end Tcheran
