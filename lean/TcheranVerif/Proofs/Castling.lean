import TcheranVerif.Proofs.Classes
/-!
# Castling (C01)

The rules list a castling move under the same conditions as the engine and then, as with every move, discard
it if the king is attacked afterwards. That last test never fires (`castle_legal`): seen from the king's
target, its vacated home square is hidden behind the rook and nothing lies beyond the rook's home square
(`castle_after_safe`).
-/

namespace Tcheran
open Board Geometry Rules

theorem castle_after_safe (b b' : RBoard) (p : Player) (ks dst rf rt : Sq)
    (hcfg : (ks, dst, rf, rt) ∈ Geo.castleConfigs)
    (hks : ∃ X, at' b ks = some X ∧ X.player = p) (hrf : ∃ X, at' b rf = some X ∧ X.player = p)
    (hrt' : ∃ X, at' b' rt = some X ∧ X.player = p) (hks' : at' b' ks = none) (hrf' : at' b' rf = none)
    (hdst' : ∃ X, at' b' dst = some X ∧ X.player = p)
    (hoff : ∀ x, x ≠ ks → x ≠ dst → x ≠ rf → x ≠ rt → at' b' x = at' b x)
    (hsafe : attacked b p.other dst = false) : attacked b' p.other dst = false := by
  have hmv : Moved b b' p [ks, rf] [dst, rt] :=
    { vac := by simpa using ⟨hks', hrf'⟩
      fill := by simpa using ⟨hdst', hrt'⟩
      off := fun x hV hD => by
        simp only [List.mem_cons, List.not_mem_nil, or_false, not_or] at hV hD
        exact hoff x hV.1 hD.1 hV.2 hD.2 }
  rw [← Bool.not_eq_true, hmv.attacked_iff]
  rintro ⟨q, hg, _, _, hD, he⟩
  -- `castle_xray`: whoever aims at `dst` past nothing but vacated squares had a free line before
  have hfact := Geo.castle_xray _ hcfg q
  have : attacked b p.other dst = true := (attacked_iff_geo b p.other dst).2 ⟨q, hg, fun x hx => by
    rcases he x hx with hv | h
    · simp only [List.mem_cons, List.not_mem_nil, or_false] at hv
      rcases hv with rfl | rfl
      · exact absurd (hfact.1 hx) (hD rt (by simp))
      · exact absurd hx hfact.2
    · exact h⟩
  rw [this] at hsafe; cases hsafe

theorem castle_legal {bd : Board} {p : Player} {k : Sq} (c : Ctx bd p k) {dst rf mid : Sq}
    (hcfg : (k, dst, rf, mid) ∈ Geo.castleConfigs) (hcs : Game.castleSquares p dst = some (rf, mid))
    (hrook : at' bd.squares rf = some ⟨.rook, p⟩) (hsafe : attacked bd.squares p.other dst = false) :
    inCheck (applyBoard bd.squares p (Move.castles k dst)) p = false := by
  obtain ⟨hkd, hkr, hkm, hdr, hdm, hrm⟩ := Geo.castle_distinct _ hcfg
  have hking : at' bd.squares k = some ⟨.king, p⟩ := (c.king k).2 rfl
  have hat := applyBoard_castle bd.squares p k dst rf mid hking hcs
  have hdst : at' (applyBoard bd.squares p (Move.castles k dst)) dst = some ⟨.king, p⟩ := by
    rw [hat dst, if_neg hdm, if_neg hdr, if_pos rfl]
  have hk2 := kingSq_of_only hdst fun x hx => by
    rw [hat x, if_neg hx]
    repeat' split
    · nofun
    · nofun
    · nofun
    · exact fun e => ‹¬x = k› ((c.king x).1 e)
  rw [inCheck_of_kingSq hk2]
  refine castle_after_safe bd.squares _ p k dst rf mid hcfg ⟨_, hking, rfl⟩ ⟨_, hrook, rfl⟩
    ⟨_, by rw [hat mid, if_pos rfl], rfl⟩ ?_ ?_ ⟨_, hdst, rfl⟩ ?_ hsafe
  · rw [hat k, if_neg hkm, if_neg hkr, if_neg hkd, if_pos rfl]
  · rw [hat rf, if_neg hrm, if_pos rfl]
  · intro x h1 h2 h3 h4
    rw [hat x, if_neg h4, if_neg h3, if_neg h2, if_neg h1]

/-- `k` is the king's square, `ks` its home square: the right implies that they are the same and that the rook
is at home on `rf`; `mid`, the square the king crosses, is where the rook lands -/
theorem castle_one (T : SliderTables) {bd : Board} {p : Player} {k : Sq} (c : Ctx bd p k) {right : Bool}
    {ks dst mid rf : Sq} {empties : List Sq} {reqEmpty : BB} (hcfg : (ks, dst, rf, mid) ∈ Geo.castleConfigs)
    (hreq : ∀ x, mem reqEmpty x = true ↔ x ∈ empties) (hcs : Game.castleSquares p dst = some (rf, mid))
    (hright : right = true → k = ks ∧ at' bd.squares rf = some ⟨.rook, p⟩) (m : Move) :
    (m ∈ (if attackersOf bd p k == 0#64 then
            (if right then
              (if (reqEmpty &&& bd.occupancy) == 0#64 && attackersOf bd p mid == 0#64
                  && attackersOf bd p dst == 0#64 then [Move.castles ks dst] else [])
             else [])
          else [])) ↔
    (m ∈ castleMk bd.squares p ks right rf empties [mid, dst] dst ∧
      inCheck (applyBoard bd.squares p m) p = false) := by
  cases hr : right with
  | false => simp [castleMk]
  | true =>
    obtain ⟨e, hrook⟩ := hright hr
    subst e
    have hc := c.cons
    have hking : at' bd.squares k = some ⟨.king, p⟩ := (c.king k).2 rfl
    have hatt : ∀ x, (attackersOf bd p x == 0#64) = true ↔ attacked bd.squares p.other x = false := fun x => by
      rw [beq_iff_eq, attackersOf_eq_zero T bd hc]
    have hemp : ((reqEmpty &&& bd.occupancy) == 0#64) = true ↔ ∀ x ∈ empties, (at' bd.squares x).isNone = true := by
      rw [beq_iff_eq, ← Decidable.not_not (p := _ = 0#64), ← ne_eq, bb_ne_zero_iff, not_exists]
      refine forall_congr' fun x => ?_
      rw [mem_and, Bool.and_eq_true, not_and, hreq, mem_occupancy bd hc, occOf]
      cases at' bd.squares x <;> simp
    -- both sides list the one move under the same conditions; they imply that it is legal
    simp only [castleMk, List.mem_ite_nil_right, Bool.and_eq_true, hatt, hemp, hking, hrook, beq_self_eq_true,
      Bool.true_and, if_true, List.all_eq_true, Bool.not_eq_true', List.mem_cons, List.not_mem_nil, or_false,
      forall_eq_or_imp, forall_eq]
    constructor
    · rintro ⟨a0, ⟨⟨hempt, a1⟩, a2⟩, e⟩
      exact ⟨⟨⟨⟨hempt, a0⟩, a1, a2⟩, e⟩, by rw [e]; exact castle_legal c hcfg hcs hrook a2⟩
    · rintro ⟨⟨⟨⟨hempt, a0⟩, a1, a2⟩, e⟩, _⟩
      exact ⟨a0, ⟨⟨hempt, a1⟩, a2⟩, e⟩

end Tcheran
