import TcheranVerif.Proofs.SanRoundTrip
import TcheranVerif.Proofs.GameInv
/-!
# The legal moves of a legal position satisfy what the SAN code relies on (C18)

`san_wf` is about a duplicate-free list with exactly the rules' legal moves, which is what the engine's generator
returns (C01).  With `parse_format` it gives the reader round trip and the injectivity of the SAN text on the legal
moves of every legal position.
-/

namespace Tcheran
open Board Game Rules San

def rulesCtx (pos : Pos) (legal : List Move) (gc : Move → Bool) : San.Ctx :=
  { player := pos.player, legal := legal, kindAt := fun s => (at' pos.board s).map (·.kind), givesCheck := gc }

theorem san_wf (pos : Pos) (hi : GInv pos) (legal : List Move) (hn : legal.Nodup)
    (hex : ∀ m, m ∈ legal ↔ m ∈ legalMoves pos) (gc : Move → Bool) (mv : Move) (hmv : mv ∈ legal) :
    WF (rulesCtx pos legal gc) mv := by
  have hl : ∀ m ∈ legal, m ∈ legalMoves pos := fun m h => (hex m).1 h
  have hat : ∀ m ∈ legal, ∀ k, (at' pos.board m.src).map (·.kind) = some k →
      at' pos.board m.src = some ⟨k, pos.player⟩ := by
    intro m hm k hk
    obtain ⟨⟨k', pl⟩, ha, hp, _⟩ := legal_src pos m (hl m hm)
    rw [ha] at hk ⊢
    cases hk
    cases hp
    rfl
  have hpawn : ∀ m ∈ legal, (at' pos.board m.src).map (·.kind) = some .pawn → m ∈ pawnMoves pos m.src :=
    fun m hm hk => (legal_pawn pos m (hl m hm) _ (hat m hm _ hk) rfl).2
  exact {
    nodup := hn
    mem := hmv
    kinds := fun m hm => by
      obtain ⟨pc, ha, _⟩ := legal_src pos m (hl m hm)
      show ((at' pos.board m.src).map (·.kind)).isSome = true
      rw [ha]; rfl
    key := fun m hm e1 e2 e3 => by
      exact legal_key_inj pos m mv (hl m hm) (hl mv hmv) e1 e2 e3
    noPromo := fun m hm k hk hnp => by
      obtain ⟨pc, ha, _, h | ⟨_, _, _, cm⟩⟩ := legal_src pos m (hl m hm)
      · cases ha.symm.trans (hat m hm k hk)
        exact Option.not_isSome_iff_eq_none.1 fun hp => hnp ((piece_move_facts pos m.src _ m h).promo hp)
      · rw [cm.eq]; rfl
    pawnPush := fun hk hcap m hm hmk hd => by
      have hS := hat mv hmv _ hk
      have hM := hat m hm _ hmk
      obtain ⟨hDe, v, ov, hv⟩ := push_behind pos mv.src mv (hpawn mv hmv hk) hcap
      obtain ⟨_, ⟨hcM, _⟩ | ⟨_, _, _, _, hcapM⟩⟩ := pawn_shape pos m.src m (hpawn m hm hmk)
      · -- both advance: `v` behind the destination holds one of the two pawns, so it is the source of both, or it
        -- is empty and both stand behind it
        obtain ⟨_, w, ow, hw⟩ := push_behind pos m.src m (hpawn m hm hmk) hcM
        rw [hd, ov] at ow
        cases ow
        rcases hv with hv | ⟨ev, oS⟩ <;> rcases hw with hw | ⟨ew, oM⟩
        · exact hw.symm.trans hv
        · rw [hv, hS] at ew; cases ew
        · rw [hw, hM] at ev; cases ev
        · exact Option.some.inj (oM.symm.trans oS)
      · -- m captures on the square mv advances to: not an enemy man, it is empty; not e.p., the pawn to be taken
        -- would stand on `v`
        exfalso
        rw [hd] at hcapM
        rcases hcapM with ⟨pc, hpc⟩ | ⟨_, hep⟩
        · rw [hDe] at hpc; cases hpc
        · obtain ⟨_, w, ow, hw⟩ := hi.ep mv.dst hep
          rw [ov] at ow
          cases ow
          rcases hv with hv | ⟨ev, _⟩
          · rw [hv, hS] at hw
            exact ne_iff_other.2 rfl (congrArg Piece.player (Option.some.inj hw)).symm
          · rw [ev] at hw; cases hw
    pawnCap := fun hk hcap m hm hmk hd hfile => by
      obtain ⟨_, shS⟩ := pawn_shape pos mv.src mv (hpawn mv hmv hk)
      obtain ⟨_, shM⟩ := pawn_shape pos m.src m (hpawn m hm hmk)
      rcases shS with ⟨hc, _⟩ | ⟨_, df, hdf, oS, _⟩
      · rw [hcap] at hc; cases hc
      have a := offset_iff.1 oS
      have hdf' : df = -1 ∨ df = 1 := by simpa using hdf
      -- a push to the same square would start on its file; a capture starts one rank behind it
      rcases shM with ⟨_, _, oM | ⟨oM, _⟩⟩ | ⟨_, dg, _, oM, _⟩
      all_goals
        rw [hd] at oM
        have b := offset_iff.1 oM
      · omega
      · omega
      · exact Sq.ext_fr hfile (by omega)
    king := fun hk m hm hmk _ => by
      obtain ⟨k, hkk⟩ := hi.king pos.player
      rw [(hkk _).1 (hat mv hmv _ hk), (hkk _).1 (hat m hm _ hmk)] }

end Tcheran
