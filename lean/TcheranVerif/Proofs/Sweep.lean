import TcheranVerif.Proofs.MagicCert
/-!
# The C07 sweep: `certOne` for every square of both slider kinds

107,648 (square, blocker subset) pairs against the magics and the certificate regenerated from `/repo`, decided by
the kernel. The kernel computes with `Nat` literals by GMP, evaluates a `BitVec 64` operation only by unfolding it
down to `Nat`, walks a list to read one entry, and pays for every loop iteration and every instance projection. So
what it runs, `sweepSq`, is a twin of `certOne` on numbers below `2 ^ 64`, written with `Nat.land`, `Nat.shiftRight`, …
directly: one loop follows the carry-rippler along the deposits of the mask (which proves the list equality in
`certOne` in passing), the ray walk is `Geometry.seen` along the square's rays (`slide_eq_spec`), done once per
blocker pattern of a line, and the slots a square can reach are packed once into one number and read by a shift.
`sweepSq_sound` turns the twin's verdict into `certOne`.
-/
namespace Tcheran.Sweep
open BB

def W : Nat := 0x10000000000000000

theorem W_eq : W = 2 ^ 64 := by decide

def seenN (occ : Nat) : List Nat → Nat → Nat
  | [], acc => acc
  | t :: ts, acc => bif Nat.beq (Nat.land occ t) 0 then seenN occ ts (Nat.lor acc t) else Nat.lor acc t

theorem seenN_eq (occ : BB) (l : List Sq) (acc : BB) :
    seenN occ.toNat (l.map fun t => 2 ^ t.val) acc.toNat = (acc ||| Geometry.setOf (Geometry.seen (mem occ) l)).toNat := by
  induction l generalizing acc with
  | nil => simp [seenN, Geometry.seen, setOf_nil]
  | cons t ts ih =>
    have hl : Nat.land occ.toNat (2 ^ t.val) = (occ &&& bb t).toNat := by rw [BitVec.toNat_and, bb_toNat]; rfl
    have ho : Nat.lor acc.toNat (2 ^ t.val) = (acc ||| bb t).toNat := by rw [BitVec.toNat_or, bb_toNat]; rfl
    rw [List.map_cons, seenN, hl, ho, Geometry.seen]
    cases hm : mem occ t with
    | true =>
      have hz : Nat.beq (occ &&& bb t).toNat 0 = false := by
        rw [← Bool.not_eq_true]
        intro e
        have := (and_bb_eq_zero occ t).1 (BitVec.eq_of_toNat_eq (Nat.eq_of_beq_eq_true e))
        rw [hm] at this; cases this
      simp only [hz, cond_false, if_true, setOf_cons, setOf_nil, BitVec.or_zero]
    | false =>
      have hz : Nat.beq (occ &&& bb t).toNat 0 = true := by rw [(and_bb_eq_zero occ t).2 hm]; rfl
      simp only [hz, cond_true, Bool.false_eq_true, if_false, ih, setOf_cons, BitVec.or_assoc]

def rayBits (d : Dir) (s : Sq) : List Nat := (Rules.ray d s).map fun t => 2 ^ t.val

/-- `slide` with the rays handed over -/
def slideN (rays : List (List Nat)) (occ : Nat) : Nat := rays.foldl (fun acc r => seenN occ r acc) 0

theorem slideN_eq (occ : BB) (ls : List (List Sq)) :
    slideN (ls.map fun l => l.map fun t => 2 ^ t.val) occ.toNat =
      (Geometry.setOf (ls.flatMap (Geometry.seen (mem occ)))).toNat := by
  have h : ∀ acc : BB, (ls.map fun l => l.map fun t => 2 ^ t.val).foldl (fun acc r => seenN occ.toNat r acc) acc.toNat
      = (acc ||| Geometry.setOf (ls.flatMap (Geometry.seen (mem occ)))).toNat := by
    induction ls with
    | nil => intro acc; simp [setOf_nil]
    | cons l ls ih =>
      intro acc
      rw [List.map_cons, List.foldl_cons, seenN_eq, ih, List.flatMap_cons, setOf_append, BitVec.or_assoc]
  have := h 0#64
  rwa [BitVec.zero_or] at this

/-- only the blockers on the rays themselves matter (`slideN rays 0` is all their squares) -/
theorem slideN_land (occ : BB) (ls : List (List Sq)) :
    slideN (ls.map fun l => l.map fun t => 2 ^ t.val)
        (Nat.land occ.toNat (slideN (ls.map fun l => l.map fun t => 2 ^ t.val) 0)) =
      (Geometry.setOf (ls.flatMap (Geometry.seen (mem occ)))).toNat := by
  rw [show slideN _ 0 = _ from slideN_eq 0#64 ls, show Nat.land _ _ = _ from (BitVec.toNat_and _ _).symm, slideN_eq,
    List.flatMap_def, List.flatMap_def]
  congr 3
  refine List.map_congr_left fun l hl => seen_congr _ _ l fun t ht => ?_
  rw [mem_and, Bool.and_eq_left_iff_imp]
  exact fun _ => (mem_setOf _ t).2
    (List.mem_flatten.2 ⟨_, List.mem_map.2 ⟨l, hl, rfl⟩, (seen_empty l).symm ▸ List.dropLast_subset l ht⟩)

/-- `f x`, with `x` made a numeral first. The kernel keeps the value of every closed term it was asked for as the
argument of an operation, so with numerals in them equal calls are computed once. -/
def force (f : Nat → Nat) (x : Nat) : Nat :=
  match x with
  | 0 => f 0
  | k+1 => f (k+1)

theorem force_eq (f : Nat → Nat) (x : Nat) : force f x = f x := by cases x <;> rfl

/-- The walks along two lines through a square, each computed from the blockers on that line alone, given as a
numeral. A rook square asks for 4,096 walks, but one line has at most 64 blocker patterns: the repeated
`slideN line pattern` are one closed term, and each pattern is walked once. -/
def slide2 (line1 line2 : List (List Nat)) (occ : Nat) : Nat :=
  force (fun p1 => force (fun p2 => Nat.lor (slideN line1 p1) (slideN line2 p2)) (Nat.land occ (slideN line2 0)))
    (Nat.land occ (slideN line1 0))

theorem slide_lines (d1 d2 d3 d4 : Dir) (s : Sq) (occ : BB) :
    (slide [d1, d2, d3, d4] s occ).toNat =
      slide2 [rayBits d1 s, rayBits d3 s] [rayBits d2 s, rayBits d4 s] occ.toNat := by
  have e1 := slideN_land occ [Rules.ray d1 s, Rules.ray d3 s]
  have e2 := slideN_land occ [Rules.ray d2 s, Rules.ray d4 s]
  simp only [List.map_cons, List.map_nil] at e1 e2
  rw [slide2, force_eq, force_eq, rayBits, rayBits, rayBits, rayBits, e1, e2, slide_eq_spec, Geometry.slideSpec,
    show Nat.lor _ _ = _ from (BitVec.toNat_or _ _).symm]
  simp only [List.flatMap_cons, List.flatMap_nil, List.append_nil, setOf_append]
  congr 1
  ac_rfl

def tableIndexN (magic off shift nmask b : Nat) : Nat :=
  Nat.add off (Nat.shiftRight (Nat.mod (Nat.mul (Nat.lor b nmask) magic) W) (Nat.sub 64 shift))

theorem tableIndex_toNat (magic : BB) (off shift : Nat) (mask b : BB) :
    tableIndex magic off shift mask b = tableIndexN magic.toNat off shift (W - 1 - mask.toNat) b.toNat := by
  simp only [tableIndex, BitVec.toNat_ushiftRight, BitVec.toNat_mul, BitVec.toNat_or, BitVec.toNat_not]
  rfl

theorem tableIndexN_lt (magic off shift nmask b : Nat) (h : shift ≤ 64) :
    tableIndexN magic off shift nmask b < off + 2 ^ shift := by
  have hW : 2 ^ shift * 2 ^ (64 - shift) = W := by rw [← Nat.pow_add, W_eq]; congr 1; omega
  have : (Nat.lor b nmask * magic % W) >>> (64 - shift) < 2 ^ shift := by
    rw [Nat.shiftRight_eq_div_pow, Nat.div_lt_iff_lt_mul (Nat.two_pow_pos _), hW]
    exact Nat.mod_lt _ (by decide)
  exact Nat.add_lt_add_left this off

/-- from the deposits over `ps` to those over `p :: ps` (bit `0` of `k` decides about `p`) -/
def dbl (bit : Nat) : List Nat → List Nat
  | [] => []
  | x :: xs => x :: Nat.lor x bit :: dbl bit xs

def depositsN : List Sq → List Nat
  | [] => [0]
  | p :: ps => dbl (Nat.pow 2 p.val) (depositsN ps)

theorem dbl_append (bit : Nat) (l l' : List Nat) : dbl bit (l ++ l') = dbl bit l ++ dbl bit l' := by
  induction l with
  | nil => rfl
  | cons x xs ih => simp only [List.cons_append, dbl, ih]

theorem dbl_map_range (bit : Nat) (f : Nat → Nat) (n : Nat) :
    dbl bit ((List.range n).map f) =
      (List.range (2 * n)).map fun k => (if k % 2 = 1 then bit else 0) ||| f (k / 2) := by
  induction n with
  | zero => rfl
  | succ n ih =>
    have e : 2 * (n + 1) = 2 * n + 1 + 1 := by omega
    rw [List.range_succ, List.map_append, dbl_append, ih, e, List.range_succ, List.range_succ]
    have h1 : (2 * n) % 2 = 0 := by omega
    have h2 : (2 * n + 1) % 2 = 1 := by omega
    have h3 : (2 * n) / 2 = n := by omega
    have h4 : (2 * n + 1) / 2 = n := by omega
    simp only [List.map_append, List.map_cons, List.map_nil, dbl, h1, h2, h3, h4, List.append_assoc,
      List.cons_append, List.nil_append, Nat.zero_or, if_true, Nat.zero_ne_one, if_false]
    rw [show (f n).lor bit = f n ||| bit from rfl, Nat.or_comm]

theorem depositsN_eq (ps : List Sq) :
    depositsN ps = (List.range (2 ^ ps.length)).map fun k => (deposit ps k).toNat := by
  induction ps with
  | nil => rfl
  | cons p ps ih =>
    rw [depositsN, ih, dbl_map_range, List.length_cons, Nat.pow_succ, Nat.mul_comm]
    apply List.map_congr_left
    intro k _
    rw [deposit, BitVec.toNat_or]
    split <;> simp [bb_toNat]

theorem deposit_zero (ps : List Sq) : deposit ps 0 = 0#64 := by
  induction ps with
  | nil => rfl
  | cons p ps ih => simp [deposit, ih]

theorem depositList_toNat (m : BB) :
    (depositList m).map BitVec.toNat = (depositsN (BB.toList m)).tail ++ [0] := by
  obtain ⟨n, hn⟩ : ∃ n, 2 ^ (BB.toList m).length = n + 1 := ⟨_, (Nat.succ_pred_eq_of_pos (Nat.two_pow_pos _)).symm⟩
  rw [depositsN_eq, hn, List.range_succ_eq_map, List.map_cons, List.tail_cons, List.map_map]
  simp only [depositList, hn, List.map_map]
  rw [List.range_succ, List.map_append]
  congr 1
  · apply List.map_congr_left
    intro k hk
    have : (k + 1) % (n + 1) = k + 1 := Nat.mod_eq_of_lt (by have := List.mem_range.1 hk; omega)
    simp [this]
  · simp [deposit_zero]

def pack : List BB → Nat
  | [] => 0
  | x :: xs => Nat.add x.toNat (Nat.mul W (pack xs))

theorem pack_get (l : List BB) (j : Nat) : (pack l >>> (64 * j)) % W = (l.getD j 0#64).toNat := by
  induction l generalizing j with
  | nil => simp [pack]
  | cons x xs ih =>
    have hx : x.toNat < W := by rw [W_eq]; exact x.isLt
    cases j with
    | zero => simp [pack, Nat.add_mul_mod_self_left, Nat.mod_eq_of_lt hx]
    | succ j =>
      have e : 64 * (j + 1) = 64 + 64 * j := by omega
      have : (x.toNat + W * pack xs) >>> 64 = pack xs := by
        rw [Nat.shiftRight_eq_div_pow, ← W_eq, Nat.add_mul_div_left _ _ (by decide : 0 < W), Nat.div_eq_of_lt hx,
          Nat.zero_add]
      show ((x.toNat + W * pack xs) >>> (64 * (j + 1))) % W = _
      rw [e, Nat.shiftRight_add, this, ih]
      rfl

/-- a chunk contributes its first `c` entries, whatever its length -/
def packChunks (c : Nat) : List (List BB) → Nat
  | [] => 0
  | ch :: chs => Nat.add (Nat.mod (pack ch) (Nat.pow W c)) (Nat.mul (Nat.pow W c) (packChunks c chs))

theorem packChunks_get (c : Nat) (hc : 0 < c) (chs : List (List BB)) (i : Nat) :
    (packChunks c chs >>> (64 * i)) % W = ((chs.getD (i / c) []).getD (i % c) 0#64).toNat := by
  induction chs generalizing i with
  | nil => simp [packChunks]
  | cons ch chs ih =>
    have hspan : W ^ c = 2 ^ (64 * c) := by rw [W_eq, ← Nat.pow_mul]
    show ((pack ch % W ^ c + W ^ c * packChunks c chs) >>> (64 * i)) % W = _
    by_cases hi : i < c
    · -- below bit `64 * c` neither the higher chunks nor the cut are visible
      have e : W ^ c = 2 ^ (64 * i) * (W * 2 ^ (64 * (c - 1 - i))) := by
        rw [hspan, W_eq, ← Nat.pow_add, ← Nat.pow_add]; congr 1; omega
      rw [Nat.div_eq_of_lt hi, Nat.mod_eq_of_lt hi, List.getD_cons_zero, ← pack_get, Nat.shiftRight_eq_div_pow,
        Nat.shiftRight_eq_div_pow, e, Nat.mul_assoc, Nat.add_mul_div_left _ _ (Nat.two_pow_pos _),
        Nat.mul_assoc, Nat.add_mul_mod_self_left, Nat.mod_mul_right_div_self,
        Nat.mod_mod_of_dvd _ (Nat.dvd_mul_right _ _)]
    · have hi' : c ≤ i := Nat.le_of_not_lt hi
      have e : 64 * i = 64 * c + 64 * (i - c) := by omega
      have hd : i / c = (i - c) / c + 1 := by rw [← Nat.add_div_right _ hc, Nat.sub_add_cancel hi']
      have hm : i % c = (i - c) % c := by rw [← Nat.add_mod_right (i - c) c, Nat.sub_add_cancel hi']
      have hpos : 0 < W ^ c := by rw [hspan]; exact Nat.two_pow_pos _
      rw [e, Nat.shiftRight_add, Nat.shiftRight_eq_div_pow (_ + _), ← hspan, Nat.add_mul_div_left _ _ hpos,
        Nat.div_eq_of_lt (Nat.mod_lt _ hpos), Nat.zero_add, ih, hd, hm, List.getD_cons_succ]

def look (c c0 win i : Nat) : Nat :=
  Nat.mod (Nat.shiftRight win (Nat.mul 64 (Nat.sub i (Nat.mul c c0)))) W

theorem look_eq (c : Nat) (hc : 0 < c) (chs : List (List BB)) (c0 k i : Nat) (h0 : c * c0 ≤ i) (h1 : i < c * (c0 + k)) :
    look c c0 (packChunks c ((chs.drop c0).take k)) i = ((chs.getD (i / c) []).getD (i % c) 0#64).toNat := by
  show (packChunks _ _ >>> (64 * (i - c * c0))) % W = _
  have hle : c0 ≤ i / c := (Nat.le_div_iff_mul_le hc).2 (Nat.mul_comm c c0 ▸ h0)
  have hk : i / c - c0 < k := by have := Nat.div_lt_of_lt_mul h1; omega
  rw [packChunks_get c hc, Nat.sub_mul_div_of_le _ _ _ h0, Nat.sub_mul_mod h0]
  congr 2
  rw [List.getD_eq_getElem?_getD, List.getElem?_take_of_lt hk, List.getElem?_drop, Nat.add_sub_cancel' hle,
    ← List.getD_eq_getElem?_getD]

/-- the chunks `off / c, …` up to the one that holds slot `off + n - 1` hold every slot from `off` to there -/
theorem window_covers {c : Nat} (hc : 0 < c) {off n i : Nat} (h0 : off ≤ i) (h1 : i < off + n) :
    c * (off / c) ≤ i ∧ i < c * (off / c + ((off % c + n) / c + 1)) := by
  refine ⟨Nat.le_trans (Nat.mul_div_le off c) h0, ?_⟩
  have := Nat.lt_mul_div_succ (off % c + n) hc
  have := Nat.div_add_mod off c
  rw [Nat.mul_add]
  omega

def nextN (mask st : Nat) : Nat := Nat.land (Nat.mod (Nat.add (Nat.sub W mask) st) W) mask

theorem next_toNat (mask st : BB) : ((st - mask) &&& mask).toNat = nextN mask.toNat st.toNat := by
  rw [BitVec.toNat_and, BitVec.toNat_sub, ← W_eq]; rfl

def sweepLoop (mask : Nat) (ok : Nat → Bool) : Nat → Nat → List Nat → Bool
  | 0, _, _ => false
  | _+1, st, [] => Nat.beq (nextN mask st) 0 && ok 0
  | fuel+1, st, d :: ds =>
    Nat.beq (nextN mask st) d && !Nat.beq d 0 && ok d && sweepLoop mask ok fuel d ds

theorem sweepLoop_sound (mask : BB) (ok : Nat → Bool) (fuel : Nat) (st : BB) (ds : List Nat)
    (h : sweepLoop mask.toNat ok fuel st.toNat ds = true) :
    (subsetsLoop mask fuel st).map BitVec.toNat = ds ++ [0] ∧ ∀ b ∈ subsetsLoop mask fuel st, ok b.toNat = true := by
  induction fuel generalizing st ds with
  | zero => cases h
  | succ n ih =>
    unfold subsetsLoop
    cases ds with
    | nil =>
      simp only [sweepLoop, Bool.and_eq_true, ← next_toNat] at h
      have e : (st - mask) &&& mask = 0#64 := BitVec.eq_of_toNat_eq (Nat.eq_of_beq_eq_true h.1)
      simp only [e, if_true, List.map_cons, List.map_nil, List.nil_append, List.mem_singleton, forall_eq]
      exact ⟨rfl, h.2⟩
    | cons d ds =>
      simp only [sweepLoop, Bool.and_eq_true, Bool.not_eq_true', ← next_toNat] at h
      obtain ⟨⟨⟨h1, h2⟩, h3⟩, h4⟩ := h
      have e : ((st - mask) &&& mask).toNat = d := Nat.eq_of_beq_eq_true h1
      have hne : (st - mask) &&& mask ≠ 0#64 := fun z => by
        rw [z] at e; rw [← e] at h2; cases h2
      rw [← e] at h4
      obtain ⟨i1, i2⟩ := ih _ ds h4
      simp only [hne, if_false, List.map_cons, i1, e, List.cons_append, List.mem_cons, forall_eq_or_imp]
      exact ⟨trivial, h3, i2⟩

/-- `certOne` for the square with relevant-blocker `mask`, magic `(magic, off)`, index width `shift` (all as numbers)
and the rays of its two lines; the certificate's chunks that hold slots `off … off + 2 ^ shift - 1` are packed once. -/
def sweepSq (mask magic off shift : Nat) (line1 line2 : List (List Nat)) : Bool :=
  Nat.ble shift 64 &&
  sweepLoop mask
    (fun b =>
      Nat.blt (tableIndexN magic off shift (W - 1 - mask) b) Gen.tableSize &&
      Nat.beq
        (look Gen.certChunkSize (off / Gen.certChunkSize)
          (packChunks Gen.certChunkSize ((Gen.certChunks.drop (off / Gen.certChunkSize)).take
            ((off % Gen.certChunkSize + 2 ^ shift) / Gen.certChunkSize + 1)))
          (tableIndexN magic off shift (W - 1 - mask) b))
        (slide2 line1 line2 b))
    4096 0 (depositsN ((List.finRange 64).filter fun t => mask.testBit t.val)).tail

theorem sweepSq_sound (mask magic : BB) (off shift : Nat) (d1 d2 d3 d4 : Dir) (s : Sq)
    (h : sweepSq mask.toNat magic.toNat off shift [rayBits d1 s, rayBits d3 s] [rayBits d2 s, rayBits d4 s] = true) :
    certOne mask (tableIndex magic off shift mask) (slide [d1, d2, d3, d4] s) = true := by
  simp only [sweepSq, Bool.and_eq_true, Nat.ble_eq] at h
  obtain ⟨hs, hl⟩ := h
  obtain ⟨l1, l2⟩ := sweepLoop_sound mask _ 4096 0#64 _ hl
  have hsub : subsetsOf mask = depositList mask := by
    rw [← List.map_inj_right (f := BitVec.toNat) (fun _ _ => BitVec.eq_of_toNat_eq), depositList_toNat]
    -- `BB.toList mask` filters by `mem mask t`, which unfolds to the `mask.toNat.testBit t.val` of `sweepSq`
    exact l1
  unfold certOne
  rw [Bool.and_eq_true, List.all_eq_true]
  refine ⟨by rw [hsub]; exact beq_self_eq_true _, fun b hb => ?_⟩
  have hlt := tableIndexN_lt magic.toNat off shift (W - 1 - mask.toNat) b.toNat hs
  have hge : off ≤ tableIndexN magic.toNat off shift (W - 1 - mask.toNat) b.toNat := Nat.le_add_right _ _
  have hc : 0 < Gen.certChunkSize := by decide
  have hw := window_covers hc hge hlt
  have hb := l2 b hb
  rw [Bool.and_eq_true, Nat.blt_eq] at hb
  rw [tableIndex_toNat, Bool.and_eq_true, decide_eq_true_eq]
  refine ⟨hb.1, ?_⟩
  have := Nat.eq_of_beq_eq_true hb.2
  rw [look_eq _ hc _ _ _ _ hw.1 hw.2, ← slide_lines] at this
  rw [cert, BitVec.eq_of_toNat_eq this]
  exact beq_self_eq_true _

def rookSq (s : Sq) : Bool :=
  sweepSq (rookMask s).toNat (rookMagic s).1.toNat (rookMagic s).2 Gen.rookShift
    [rayBits .N s, rayBits .S s] [rayBits .E s, rayBits .W s]

def bishopSq (s : Sq) : Bool :=
  sweepSq (bishopMask s).toNat (bishopMagic s).1.toNat (bishopMagic s).2 Gen.bishopShift
    [rayBits .NE s, rayBits .SW s] [rayBits .SE s, rayBits .NW s]

/-- `f` on the squares `16 k, …, 16 k + 15`: the rook squares are swept in four parts of about 4 GB each -/
def quarter (f : Sq → Bool) (k : Nat) : Bool := (List.finRange 64).all fun s => s.val / 16 != k || f s

theorem of_quarters {f : Sq → Bool} (h0 : quarter f 0 = true) (h1 : quarter f 1 = true) (h2 : quarter f 2 = true)
    (h3 : quarter f 3 = true) (s : Sq) : f s = true := by
  have hk : s.val / 16 = 0 ∨ s.val / 16 = 1 ∨ s.val / 16 = 2 ∨ s.val / 16 = 3 := by omega
  have part : ∀ k, quarter f k = true → s.val / 16 = k → f s = true := fun k h e => by
    have := List.all_eq_true.1 h s (List.mem_finRange s)
    simpa [e] using this
  rcases hk with e | e | e | e
  · exact part 0 h0 e
  · exact part 1 h1 e
  · exact part 2 h2 e
  · exact part 3 h3 e

theorem rook_q0 : quarter rookSq 0 = true := by decide +kernel
theorem rook_q1 : quarter rookSq 1 = true := by decide +kernel
theorem rook_q2 : quarter rookSq 2 = true := by decide +kernel
theorem rook_q3 : quarter rookSq 3 = true := by decide +kernel
theorem bishop_sweep : (List.finRange 64).all bishopSq = true := by decide +kernel

theorem rook_all (s : Sq) : certOne (rookMask s) (rookIndex s) (genRookAttacks s) = true :=
  sweepSq_sound (rookMask s) (rookMagic s).1 (rookMagic s).2 Gen.rookShift .N .E .S .W s
    (of_quarters rook_q0 rook_q1 rook_q2 rook_q3 s)

theorem bishop_all (s : Sq) : certOne (bishopMask s) (bishopIndex s) (genBishopAttacks s) = true :=
  sweepSq_sound (bishopMask s) (bishopMagic s).1 (bishopMagic s).2 Gen.bishopShift .NE .SE .SW .NW s
    (List.all_eq_true.1 bishop_sweep s (List.mem_finRange s))

end Tcheran.Sweep
