import TcheranVerif.Proofs.Pawns
/-!
# En passant (C01)

The engine decides an e.p. capture on a scratch board, which is literally the rules' test (`ep_test_iff`);
what needs proof is that its three shortcuts (capturer not orthogonally pinned, diagonal pin only along the
capture, check mask must contain the target or the captured pawn) never discard a legal capture
(`ep_shortcuts`).
-/

namespace Tcheran
open Board Geometry Rules

def EpOk (sq : RBoard) (p : Player) (ep : Option Sq) : Prop :=
  ∀ t, ep = some t → at' sq t = none ∧ ∃ v, offset t 0 (-(fwd p)) = some v ∧ at' sq v = some ⟨.pawn, p.other⟩

theorem epOk_none (sq : RBoard) (p : Player) : EpOk sq p none := fun _ h => by cases h

structure EpCap (bd : Board) (p : Player) (k s t v : Sq) : Prop where
  ctx : Ctx bd p k
  src : at' bd.squares s = some ⟨.pawn, p⟩
  off : ∃ df ∈ ([-1, 1] : List Int), offset s df (fwd p) = some t
  dst : at' bd.squares t = none
  back : offset t 0 (-(fwd p)) = some v
  cap : at' bd.squares v = some ⟨.pawn, p.other⟩

theorem EpCap.ne {bd : Board} {p : Player} {k s t v : Sq} (h : EpCap bd p k s t v) : v ≠ t ∧ v ≠ s ∧ s ≠ t := by
  obtain ⟨df, hdf, ho⟩ := h.off
  exact Geo.ep_distinct hdf ho h.back

theorem EpCap.at_after {bd : Board} {p : Player} {k s t v : Sq} (h : EpCap bd p k s t v) (x : Sq) :
    at' (applyBoard bd.squares p (Move.enPassant s t)) x =
      if x = v then none else if x = t then some ⟨.pawn, p⟩ else if x = s then none else at' bd.squares x :=
  applyBoard_ep bd.squares p (Move.enPassant s t) v _ rfl h.src h.back x

theorem EpCap.inCheck_eq {bd : Board} {p : Player} {k s t v : Sq} (h : EpCap bd p k s t v) :
    inCheck (applyBoard bd.squares p (Move.enPassant s t)) p =
      attacked (applyBoard bd.squares p (Move.enPassant s t)) p.other k := by
  have hk : kingSq (applyBoard bd.squares p (Move.enPassant s t)) p = some k := by
    refine kingSq_stays h.ctx.king fun x => ?_
    rw [h.at_after x]
    repeat' split
    · exact Or.inr ⟨nofun, by rw [‹x = v›, h.cap]; nofun⟩
    · exact Or.inr ⟨nofun, by rw [‹x = t›, h.dst]; nofun⟩
    · exact Or.inr ⟨nofun, by rw [‹x = s›, h.src]; nofun⟩
    · exact Or.inl rfl
  rw [inCheck_of_kingSq hk]

theorem EpCap.moved {bd : Board} {p : Player} {k s t v : Sq} (h : EpCap bd p k s t v) :
    Moved bd.squares (applyBoard bd.squares p (Move.enPassant s t)) p [s, v] [t] := by
  obtain ⟨hvt, hvs, hst⟩ := h.ne
  refine ⟨?_, ?_, fun x hV hD => ?_⟩
  · simp only [List.mem_cons, List.not_mem_nil, or_false, forall_eq_or_imp, forall_eq]
    exact ⟨by rw [h.at_after s, if_neg (Ne.symm hvs), if_neg hst, if_pos rfl], by rw [h.at_after v, if_pos rfl]⟩
  · simp only [List.mem_singleton, forall_eq]
    exact ⟨_, by rw [h.at_after t, if_neg (Ne.symm hvt), if_pos rfl], rfl⟩
  · simp only [List.mem_cons, List.not_mem_nil, or_false, not_or] at hV hD
    rw [h.at_after x, if_neg hV.2, if_neg hD, if_neg hV.1]

theorem ep_scratch {bd : Board} {p : Player} {k s t v : Sq} (h : EpCap bd p k s t v) :
    Consistent (((bd.removeAt s).removeAt v).setAt t ⟨.pawn, p⟩) ∧
    (((bd.removeAt s).removeAt v).setAt t ⟨.pawn, p⟩).squares = applyBoard bd.squares p (Move.enPassant s t) := by
  obtain ⟨hvt, _, hst⟩ := h.ne
  have he : ((bd.removeAt s).removeAt v).pieceAt t = none := by
    rw [pieceAt_removeAt, if_neg (Ne.symm hvt), pieceAt_removeAt, if_neg (Ne.symm hst)]
    exact h.dst
  refine ⟨consistent_setAt _ t _ (consistent_removeAt _ v (consistent_removeAt bd s h.ctx.cons)) he, ?_⟩
  refine squares_ext _ _ fun x => ?_
  show at' _ x = at' _ x
  rw [h.at_after x, at'_squares, at'_squares, pieceAt_setAt, pieceAt_removeAt, pieceAt_removeAt]
  by_cases h1 : x = v
  · subst h1; rw [if_neg hvt, if_pos rfl, if_pos rfl]
  · rw [if_neg h1, if_neg h1]

theorem ep_test_iff (T : SliderTables) {bd : Board} {p : Player} {k s t v : Sq} (h : EpCap bd p k s t v) :
    (attackersOf (((bd.removeAt s).removeAt v).setAt t ⟨.pawn, p⟩) p k != 0#64) = false ↔
      inCheck (applyBoard bd.squares p (Move.enPassant s t)) p = false := by
  obtain ⟨hcons, hsq⟩ := ep_scratch h
  rw [h.inCheck_eq, ← hsq, ← attackersOf_eq_zero T _ hcons, ← Bool.not_eq_true, bne_iff_ne, Decidable.not_not]

theorem ep_shortcuts {bd : Board} {p : Player} {k s t v : Sq} (h : EpCap bd p k s t v) {cm op dp : BB}
    (ms : MaskSpec bd p k cm op dp)
    (hl : inCheck (applyBoard bd.squares p (Move.enPassant s t)) p = false) :
    mem op s = false ∧ (mem dp s = true → mem dp t = true) ∧ (mem cm t = true ∨ mem cm v = true) := by
  have hsown : Own bd.squares p s := ⟨_, h.src, rfl⟩
  rw [h.inCheck_eq] at hl
  -- every man aiming at the king past nothing but `s` and `v` has the target between it and the king:
  -- otherwise it would give check after the capture
  have hkey : ∀ q, Geo bd.squares p.other q k → q ≠ v →
      (∀ x ∈ betweenList k q, x ∈ [s, v] ∨ occOf bd.squares x = false) → t ∈ betweenList k q := by
    intro q hg hqv hth
    apply Decidable.byContradiction
    intro hn
    have hqt : q ≠ t := fun e => by
      have := (geo_own hg).occ
      rw [e, occOf_eq_false.2 h.dst] at this; cases this
    rw [(h.moved.attacked_iff k).2 ⟨q, hg, by simpa using ⟨fun e => hsown.ne_other (geo_own hg) e.symm, hqv⟩,
      by simpa using hqt, by simpa using hn, hth⟩] at hl
    cases hl
  obtain ⟨df, hdf, ho⟩ := h.off
  obtain ⟨⟨dir2, hdir2, htr⟩, hbl⟩ := Geo.capture_on_ray hdf ho
  -- hence the pin condition holds (a slider is not the pawn on `v`), which gives the two pin shortcuts
  have hpin : PinOK bd.squares p.other k s t := pinOK_iff.2 fun c q hq _ hth => by
    have hqv : q ≠ v := fun e => by
      obtain ⟨a | a, _⟩ := hq <;> rw [e, h.cap] at a <;> cases c <;> cases a
    exact Or.inr (hkey q hq.geo hqv fun x hx => (hth x hx).imp_left fun e => by simp [e])
  obtain ⟨hno, himp⟩ := (pinOK_slide bd.squares p k s t h.ctx.king_occ hsown false dir2 hdir2 htr
    (by simp [hbl])).1 hpin
  refine ⟨(not_mem_iff (ms.pin true s)).2 hno, fun hm => (ms.pin false t).2 (himp ((ms.pin false s).1 hm)), ?_⟩
  rw [ms.check t, ms.check v]
  -- every checker but the pawn to be captured has the target between it and the king
  have hbt : ∀ c', AttacksFrom bd.squares p.other c' k → c' ≠ v → t ∈ betweenList k c' := fun c' hc' hne => by
    obtain ⟨hg', he'⟩ := (attacksFrom_iff_geo _ _ c' k).1 hc'
    exact hkey c' hg' hne fun x hx' => Or.inr (he' x hx')
  by_cases hvc : AttacksFrom bd.squares p.other v k
  · -- if that pawn gives check it is the only checker: a second one would aim at the king past `t`, which is
    -- a knight's move from the king
    refine Or.inr fun c' hc' => Decidable.byContradiction fun hcv => ?_
    obtain ⟨dir, h1, _⟩ := Geo.mem_betweenList.1 (hbt c' hc' fun e => hcv (Or.inl e))
    obtain ⟨kk, a, hkind⟩ := hvc
    rw [h.cap] at a
    cases a
    have ht' : offset v 0 (fwd p) = some t := by simpa using offset_neg _ _ _ _ h.back
    rw [← fwd_other p] at hkind
    rcases hkind with ⟨_, ho' | ho'⟩ | ⟨e, _⟩ | ⟨e, _⟩ | ⟨e | e, _⟩ | ⟨e | e, _⟩
    · exact Geo.ep_passed_off_rays (by simp) ho' ht' dir (Geo.mem_ray_iff.2 h1)
    · exact Geo.ep_passed_off_rays (by simp) ho' ht' dir (Geo.mem_ray_iff.2 h1)
    all_goals cases e
  · exact Or.inl fun c' hc' => Or.inr (hbt c' hc' fun e => hvc (e ▸ hc'))

theorem mem_epCond (cm : BB) (t v : Sq) :
    (cm &&& (bb t ||| bb v)) ≠ 0#64 ↔ (mem cm t = true ∨ mem cm v = true) := by
  simp only [bb_ne_zero_iff, mem_and, mem_or, mem_bb, Bool.and_eq_true, Bool.or_eq_true, decide_eq_true_eq,
    and_or_left, exists_or, exists_eq_right]

theorem mem_epCapturers (bd : Board) (hc : Consistent bd) (p : Player) (op : BB) (s t : Sq) :
    mem (bd.pawnsOf p &&& ~~~op &&& pawnAttacks t p.other) s = true ↔
      (at' bd.squares s = some ⟨.pawn, p⟩ ∧ mem op s = false ∧
        ∃ df ∈ ([-1, 1] : List Int), offset s df (fwd p) = some t) := by
  have hsym : ∀ df : Int, offset t df (fwd p.other) = some s ↔ offset s (-df) (fwd p) = some t := fun df => by
    rw [offset_iff, offset_iff, fwd_other p]
    omega
  rw [mem_and, mem_and, mem_not, Bool.and_eq_true, Bool.and_eq_true, mem_pawnsOf bd hc, mem_pawnAttacks,
    Bool.not_eq_true', hsym, hsym, and_assoc]
  simp [or_comm]

theorem enPassant_spec (T : SliderTables) (g : Game) (k : Sq) (c : Ctx g.board g.player k) (cm op dp : BB)
    (ms : MaskSpec g.board g.player k cm op dp) (hep : EpOk g.board.squares g.player g.ep) :
    ∃ L, Gen.pawnEnPassant g (g.board.pawnsOf g.player) k cm op dp = some L ∧
      ∀ m, m ∈ L ↔ ∃ s df t, at' g.board.squares s = some ⟨.pawn, g.player⟩ ∧ df ∈ ([-1, 1] : List Int) ∧
        offset s df (fwd g.player) = some t ∧ at' g.board.squares t = none ∧ g.ep = some t ∧
        m = Move.enPassant s t ∧ inCheck (applyBoard g.board.squares g.player m) g.player = false := by
  rw [pawnEnPassant_eq]
  cases hepv : g.ep with
  | none => exact ⟨[], rfl, fun m => ⟨fun h => (by cases h), fun ⟨_, _, _, _, _, _, _, h, _⟩ => (by cases h)⟩⟩
  | some t =>
    obtain ⟨ht, v, hv, hvp⟩ := hep t hepv
    have hcap : ∀ s df, at' g.board.squares s = some ⟨.pawn, g.player⟩ → df ∈ ([-1, 1] : List Int) →
        offset s df (fwd g.player) = some t → EpCap g.board g.player k s t v :=
      fun s df hs hdf ho => ⟨c, hs, ⟨df, hdf, ho⟩, ht, hv, hvp⟩
    refine ⟨if (cm &&& (bb t ||| bb v)) ≠ 0#64 then epList g (g.board.pawnsOf g.player) k op dp t v else [], ?_,
      fun m => ?_⟩
    · show (t.backward g.player).map _ = _
      rw [backward_eq_offset, hv]
      rfl
    rw [List.mem_ite_nil_right, mem_epCond, mem_epList]
    simp only [mem_epCapturers g.board c.cons]
    constructor
    · -- the scratch test alone makes the capture legal
      rintro ⟨_, s, ⟨hs, _, df, hdf, ho⟩, _, htest, e⟩
      exact ⟨s, df, t, hs, hdf, ho, ht, rfl, e, e ▸ (ep_test_iff T (hcap s df hs hdf ho)).1 htest⟩
    · rintro ⟨s, df, t', hs, hdf, ho, _, het, e, hl⟩
      cases het
      rw [e] at hl
      obtain ⟨hop, himp, hcm⟩ := ep_shortcuts (hcap s df hs hdf ho) ms hl
      exact ⟨hcm, s, ⟨hs, hop, df, hdf, ho⟩, himp, (ep_test_iff T (hcap s df hs hdf ho)).2 hl, e⟩

end Tcheran
