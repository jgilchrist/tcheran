import TcheranVerif.Model.Fen
import TcheranVerif.Proofs.Game
import TcheranVerif.Proofs.TextPrim
/-!
# FEN: reading back what was written (C06, string level)

The proof follows the grammar: the two counters through the library's `Nat.toDigits` / `Nat.ofDigitChars` round
trip, run-length encoding of a rank and its inverse (`lineItems_enc`, by induction on the rank with the
pending-empties counter; `fenLine_eq` adds the width check), eight ranks and seven slashes (`more_format`), the
one-character fields. Every reader is stated on `printed field ++ rest` for whatever `rest` follows (with `StopsAt`
where the reader scans), so `parse_write_fields` applies them in the order of the grammar without writing out the
rest of the text.
-/

namespace Tcheran
namespace Fen

theorem digits_fold (l : List Char) (a : Nat) :
    l.foldl (fun acc c => acc * 10 + (c.toNat - 48)) a = Nat.ofDigitChars 10 l a := by
  -- the library's function is the same fold, with the product written the other way round
  unfold Nat.ofDigitChars
  congr 1
  funext acc c
  rw [Nat.mul_comm]
  rfl

theorem toString_digits (n : Nat) : (toString n).toList = Nat.toDigits 10 n := by
  rw [Nat.toString_eq_repr, Nat.toList_repr]

theorem isDigit_toString (n : Nat) : ∀ c ∈ (toString n).toList, c.isDigit = true := fun c hc =>
  Nat.isDigit_of_mem_toDigits (by decide) (by decide) (toString_digits n ▸ hc)

theorem toString_ne_nil (n : Nat) : (toString n).toList ≠ [] := toString_digits n ▸ Nat.toDigits_ne_nil

theorem natU32_toString (n : Nat) (rest : List Char) (hn : n < 4294967296) (hr : StopsAt Char.isDigit rest) :
    natU32 ((toString n).toList ++ rest) = some (n, rest) := by
  unfold natU32
  simp only [takeWhile_stop (isDigit_toString n) hr, dropWhile_stop (isDigit_toString n) hr,
    List.isEmpty_iff, toString_ne_nil, if_false]
  rw [digits_fold, toString_digits, Nat.ofDigitChars_ten_toDigits, if_neg (by omega)]

/-- recursive form of the run-length encoder: `n` = pending empties -/
def enc : Nat → List (Option Piece) → List Char
  | n, [] => if n > 0 then (toString n).toList else []
  | n, none :: r => enc (n + 1) r
  | n, some p :: r => (if n > 0 then (toString n).toList else []) ++ charOfPiece p :: enc 0 r

theorem formatRank_fold (rank : List (Option Piece)) (acc : List Char) (n : Nat) :
    (let st := rank.foldl (fun (st : List Char × Nat) sq =>
      match sq with
      | some p => (st.1 ++ (if st.2 > 0 then (toString st.2).toList else []) ++ [charOfPiece p], 0)
      | none => (st.1, st.2 + 1)) (acc, n)
     st.1 ++ (if st.2 > 0 then (toString st.2).toList else [])) = acc ++ enc n rank := by
  induction rank generalizing acc n with
  | nil => simp [enc]
  | cons x xs ih =>
    cases x with
    | none =>
      simp only [List.foldl_cons, enc]
      exact ih acc (n + 1)
    | some p =>
      simp only [List.foldl_cons, enc]
      rw [ih]
      simp [List.append_assoc]

theorem formatRank_eq (rank : List (Option Piece)) : formatRank rank = enc 0 rank :=
  formatRank_fold rank [] 0

/-- the characters `lineItems` consumes -/
def isItemChar (c : Char) : Bool := (pieceOfChar? c).isSome || (emptyCount? c).isSome

theorem lineItems_stop {l : List Char} (h : StopsAt isItemChar l) : lineItems l = ([], l) := by
  cases l with
  | nil => rfl
  | cons c cs =>
    have := stopsAt_cons.1 h
    unfold isItemChar at this
    simp only [Bool.or_eq_false_iff, Option.isSome_eq_false_iff, Option.isNone_iff_eq_none] at this
    unfold lineItems
    rw [this.1, this.2]

theorem piece_char (p : Piece) : pieceOfChar? (charOfPiece p) = some p := by
  obtain ⟨k, pl⟩ := p
  cases k <;> cases pl <;> rfl

theorem digit_small : ∀ n : Fin 9, 0 < n.val → Nat.toDigits 10 n.val = [Char.ofNat (48 + n.val)] ∧
    pieceOfChar? (Char.ofNat (48 + n.val)) = none ∧ emptyCount? (Char.ofNat (48 + n.val)) = some n.val := by
  decide

theorem lineItems_pending (n : Nat) (h8 : n ≤ 8) {tail : List Char} {sq : List (Option Piece)} {r : List Char}
    (ht : lineItems tail = (sq, r)) :
    lineItems ((if n > 0 then (toString n).toList else []) ++ tail) = (List.replicate n none ++ sq, r) := by
  by_cases h0 : n > 0
  · obtain ⟨e1, e2, e3⟩ := digit_small ⟨n, by omega⟩ h0
    simp only at e1 e2 e3
    rw [if_pos h0, toString_digits, e1]
    show lineItems (Char.ofNat (48 + n) :: tail) = _
    unfold lineItems
    rw [e2, e3, ht]
  · obtain rfl : n = 0 := by omega
    simpa using ht

theorem lineItems_enc (rest : List Char) (hr : StopsAt isItemChar rest) :
    ∀ (rank : List (Option Piece)) (n : Nat), n + rank.length ≤ 8 →
      lineItems (enc n rank ++ rest) = (List.replicate n none ++ rank, rest) := by
  intro rank
  induction rank with
  | nil =>
    intro n hn
    rw [enc]
    exact lineItems_pending n (by simpa using hn) (lineItems_stop hr)
  | cons x xs ih =>
    intro n hn
    simp only [List.length_cons] at hn
    cases x with
    | none =>
      rw [enc, ih (n + 1) (by omega)]
      simp [List.replicate_succ', List.append_assoc]
    | some p =>
      have hp : lineItems (charOfPiece p :: (enc 0 xs ++ rest)) = (some p :: xs, rest) := by
        unfold lineItems
        rw [piece_char, ih 0 (by omega)]
        simp
      rw [enc, List.append_assoc, List.cons_append]
      exact lineItems_pending n (by omega) hp

/-- `fen_line` is `lineItems` with the width check: the "at least one item" test is implied by it -/
theorem fenLine_eq (inp : List Char) :
    fenLine inp = if (lineItems inp).1.length = 8 then some (lineItems inp) else none := by
  cases inp with
  | nil => rfl
  | cons c cs =>
    unfold fenLine
    simp only
    by_cases hc : (pieceOfChar? c).isNone ∧ (emptyCount? c).isNone
    · rw [if_pos hc, lineItems_stop (stopsAt_cons.2 (by simpa [isItemChar] using hc))]
      rfl
    · rw [if_neg hc]
      generalize lineItems (c :: cs) = res
      by_cases h : res.1.length = 8 <;> simp [h]

theorem fenLine_format (rank : List (Option Piece)) (rest : List Char) (hl : rank.length = 8)
    (hr : StopsAt isItemChar rest) : fenLine (formatRank rank ++ rest) = some (rank, rest) := by
  rw [fenLine_eq, formatRank_eq, lineItems_enc rest hr rank 0 (by omega)]
  simp [hl]

theorem more_format (rest : List Char) (hr : StopsAt isItemChar rest) :
    ∀ (rs : List (List (Option Piece))) (acc : List (List (Option Piece))), (∀ r ∈ rs, r.length = 8) →
      fenPosition.more rs.length (rs.flatMap (fun r => '/' :: formatRank r) ++ rest) acc = some (rs.reverse ++ acc, rest) := by
  intro rs
  induction rs with
  | nil => intro acc _; simp [fenPosition.more]
  | cons r rs ih =>
    intro acc h8
    have hr8 := h8 r List.mem_cons_self
    simp only [List.length_cons, List.flatMap_cons, List.cons_append, List.append_assoc]
    unfold fenPosition.more
    have hnext : StopsAt isItemChar (rs.flatMap (fun r => '/' :: formatRank r) ++ rest) := by
      cases rs with
      | nil => exact hr
      | cons x xs => exact stopsAt_cons.2 (by decide)
    simp only
    rw [fenLine_format r _ hr8 hnext]
    simp only [Option.bind_eq_bind, Option.bind_some]
    rw [ih (r :: acc) (fun x hx => h8 x (List.mem_cons_of_mem _ hx))]
    simp

theorem intercalate_cons {α} (sep x : List α) (xs : List (List α)) :
    List.intercalate sep (x :: xs) = x ++ xs.flatMap (sep ++ ·) := by
  induction xs generalizing x with
  | nil => simp
  | cons y ys ih => rw [List.intercalate_cons_cons, ih, List.flatMap_cons, List.append_assoc, List.append_assoc]

theorem fenPosition_format (sq : Vector (Option Piece) 64) (rest : List Char) (hr : StopsAt isItemChar rest) :
    fenPosition (formatBoard sq ++ rest) =
      some ((List.finRange 8).map (rankSquares sq), rest) := by
  have h8 : ∀ r : Fin 8, (rankSquares sq r).length = 8 := fun r => by simp [rankSquares]
  -- the text is rank 8, then seven times a slash and the next rank down
  obtain ⟨below, hranks, hlen⟩ : ∃ below : List (Fin 8), (List.finRange 8).reverse = 7 :: below ∧ below.length = 7 :=
    ⟨[6, 5, 4, 3, 2, 1, 0], by decide, rfl⟩
  have hnext : StopsAt isItemChar (below.flatMap (fun r => '/' :: formatRank (rankSquares sq r)) ++ rest) := by
    cases below with
    | nil => cases hlen
    | cons _ _ => exact stopsAt_cons.2 (by decide)
  have hmore := more_format rest hr (below.map (rankSquares sq)) [rankSquares sq 7] (by simp [h8])
  rw [List.length_map, hlen, List.flatMap_map] at hmore
  unfold formatBoard fenPosition
  simp only [hranks, List.map_cons, intercalate_cons, List.flatMap_map, List.singleton_append, List.append_assoc,
    fenLine_format _ _ (h8 7) hnext, Option.bind_eq_bind, Option.bind_some, hmore]
  rw [← List.reverse_reverse (List.finRange 8), hranks, List.reverse_cons, List.map_append, List.map_reverse]
  rfl

theorem flat_eq (sq : Vector (Option Piece) 64) :
    ((List.finRange 8).map (rankSquares sq)).flatten = sq.toList := by
  -- `sq.toList` as `List.ofFn` of its 64 entries
  rw [← congrArg Vector.toList (Vector.ofFn_getElem (xs := sq)), Vector.toList_ofFn]
  simp only [List.ofFn_succ, List.ofFn_zero]
  rfl

theorem toVector_ranks (sq : Vector (Option Piece) 64) :
    toVector ((List.finRange 8).map (rankSquares sq)) = some sq := by
  unfold toVector
  simp only [flat_eq]
  rw [dif_pos (by simp)]
  congr 1

def Started (l : List Char) : Prop := ∃ c cs, l = c :: cs ∧ isSpace c = false

theorem space1_field {l : List Char} (h : Started l) (rest : List Char) :
    space1 (' ' :: (l ++ rest)) = some (l ++ rest) := by
  obtain ⟨c, cs, rfl, hc⟩ := h
  have h1 : isSpace ' ' = true := by decide
  simp only [space1, h1, if_true, List.cons_append, List.dropWhile_cons, hc, Bool.false_eq_true, if_false]

theorem fenColor_format (p : Player) (rest : List Char) :
    fenColor ((if p = .white then 'w' else 'b') :: rest) = some (p, rest) := by cases p <;> rfl

theorem fenCastling_format (r : Rights) (rest : List Char) :
    fenCastling (formatCastling r ++ ' ' :: rest) = some (r, ' ' :: rest) := by
  obtain ⟨⟨wk, wq⟩, ⟨bk, bq⟩⟩ := r
  -- sixteen right sets; the reader stops at the space, so each evaluates with `rest` a variable
  cases wk <;> cases wq <;> cases bk <;> cases bq <;> rfl

theorem castling_started (r : Rights) : Started (formatCastling r) := by
  obtain ⟨⟨wk, wq⟩, ⟨bk, bq⟩⟩ := r
  cases wk <;> cases wq <;> cases bk <;> cases bq <;> exact ⟨_, _, rfl, by decide⟩

theorem fenEp_format (ep : Option Sq) (rest : List Char) : fenEp (formatEp ep ++ rest) = some (ep, rest) := by
  cases ep with
  | none => rfl
  | some s =>
    have hf : fileChar s.file ≠ '-' := fun e => by
      have := s.fileChar_toNat
      rw [e] at this
      change 45 = _ at this
      omega
    simp only [formatEp, s.notation_toList, List.cons_append, List.nil_append]
    unfold fenEp
    split
    · rename_i heq; exact absurd (List.cons.inj heq).1 hf
    · rename_i heq; cases heq; rw [s.ofNotation?_chars]
    · rename_i h; exact absurd rfl (h _ _ _)

theorem ep_started (ep : Option Sq) : Started (formatEp ep) := by
  cases ep with
  | none => exact ⟨'-', [], rfl, by decide⟩
  | some s => exact ⟨_, _, s.notation_toList, (by decide : ∀ f : Fin 8, isSpace (fileChar f) = false) ⟨_, s.file_lt⟩⟩

theorem digits_started (n : Nat) : Started (toString n).toList := by
  cases h : (toString n).toList with
  | nil => exact absurd h (toString_ne_nil n)
  | cons c cs =>
    have : c.isDigit = true := isDigit_toString n c (h ▸ List.mem_cons_self)
    refine ⟨c, cs, rfl, ?_⟩
    unfold isSpace
    simp only [Bool.or_eq_false_iff, beq_eq_false_iff_ne, ne_eq]
    constructor <;> (intro e; subst e; simp [Char.isDigit] at this)

theorem optNumber_format (n : Nat) (rest : List Char) (hn : n < 4294967296) (hr : StopsAt Char.isDigit rest) :
    optNumber (' ' :: ((toString n).toList ++ rest)) = (some n, rest) := by
  unfold optNumber
  rw [space1_field (digits_started n)]
  simp only [natU32_toString n rest hn hr]

/-- `4000000000`: a round number below `u32Max`; any bound under which neither `(fm - 1) * 2` nor the `+ 1` of
`pliesFromFullmove` saturates would do -/
theorem plies_roundtrip (plies : Nat) (p : Player) (hp : plies < 4000000000)
    (hpar : plies % 2 = if p = .black then 1 else 0) : pliesFromFullmove (plies / 2 + 1) p = plies := by
  unfold pliesFromFullmove u32Max
  cases p <;> simp at hpar ⊢ <;> omega

theorem parse_write_fields (sq : Vector (Option Piece) 64) (p : Player) (r : Rights) (ep : Option Sq)
    (halfmove plies : Nat) (hh : halfmove < 4294967296) (hp : plies < 4000000000)
    (hpar : plies % 2 = if p = .black then 1 else 0) :
    parseFields (writeFields sq p r ep halfmove plies).toList =
      .ok { squares := sq, player := p, rights := r, ep := ep, halfmove := halfmove, plies := plies } := by
  have hcolour : ∀ rest, space1 (' ' :: (if p = .white then 'w' else 'b') :: rest) =
      some ((if p = .white then 'w' else 'b') :: rest) := space1_field ⟨_, [], rfl, by cases p <;> decide⟩
  have hclock := optNumber_format halfmove (' ' :: (toString (plies / 2 + 1)).toList) hh (stopsAt_cons.2 (by decide))
  have hmove := optNumber_format (plies / 2 + 1) [] (by omega) (stopsAt_nil _)
  rw [List.append_nil] at hmove
  unfold writeFields parseFields
  -- the text as `board ++ ' ' :: (colour :: ' ' :: (castling ++ ' ' :: (ep ++ ' ' :: (clock ++ ' ' :: move))))`
  simp only [String.toList_ofList, List.append_assoc, List.cons_append, List.nil_append]
  rw [fenPosition_format sq _ (stopsAt_cons.2 (by decide))]
  simp only [toVector_ranks, Option.bind_eq_bind, Option.bind_some,
    hcolour, fenColor_format,
    space1_field (castling_started r), fenCastling_format,
    space1_field (ep_started ep), fenEp_format,
    hclock, hmove, space0, List.dropWhile_nil, ne_eq, not_true_eq_false, if_false, Option.getD_some,
    plies_roundtrip plies p hp hpar]

open Board Game

theorem parse_of_fields (c : Cfg) {s : String} {f : Fields} (hf : parseFields s.toList = .ok f) :
    parse c s = if tooManyMen f.squares then .err
      else .ok (Game.fromState c (Board.ofSquares f.squares) f.player f.rights f.ep f.halfmove f.plies) := by
  unfold parse
  rw [hf]

/-- the history stack, which a FEN does not carry, comes back empty -/
theorem parse_write (c : Cfg) (g : Game) (hs : Sync c g) (hh : g.halfmove < 4294967296) (hp : g.plies < 4000000000)
    (hpar : g.plies % 2 = if g.player = .black then 1 else 0) (hmen : tooManyMen g.board.squares = false) :
    parse c (write g) = .ok { g with history := [] } := by
  unfold write
  rw [parse_of_fields c (parse_write_fields g.board.squares g.player g.rights g.ep g.halfmove g.plies hh hp hpar)]
  simp only [hmen, Bool.false_eq_true, if_false]
  -- the board rebuilt from the mailbox is the board, both being consistent; key and accumulators by `Sync`
  rw [consistent_ext _ g.board (consistent_ofSquares _) hs.cons rfl]
  unfold Game.fromState
  congr 1
  rw [hash_eq_fullHash c g.board hs.cons, ← hs.key, ← hs.inc]

theorem write_parse_canonical (c : Cfg) (g : Game) (hs : Sync c g) (hh : g.halfmove < 4294967296)
    (hp : g.plies < 4000000000) (hpar : g.plies % 2 = if g.player = .black then 1 else 0)
    (hmen : tooManyMen g.board.squares = false) :
    ∃ g', parse c (write g) = .ok g' ∧ write g' = write g := by
  exact ⟨_, parse_write c g hs hh hp hpar hmen, rfl⟩

theorem parse_crowded (c : Cfg) (s : String) (f : Fields) (hf : parseFields s.toList = .ok f)
    (h : tooManyMen f.squares = true) : parse c s = .err := by
  rw [parse_of_fields c hf, if_pos h]

theorem parse_ok_men (c : Cfg) (s : String) (g : Game) (h : parse c s = .ok g) :
    tooManyMen g.board.squares = false := by
  unfold parse at h
  split at h
  · split at h
    · cases h
    · rename_i hm
      rw [← Outcome.ok.inj h]
      -- the mailbox of the board built is the mailbox read
      exact Bool.eq_false_iff.2 hm
  · cases h
  · cases h

end Fen
end Tcheran
