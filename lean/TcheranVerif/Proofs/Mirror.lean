import TcheranVerif.Model.Mirror
import TcheranVerif.Proofs.MirrorBits
import TcheranVerif.Proofs.EvalBound
/-!
# Colour swap + rank flip: the board, the attack sets, and the static evaluation (C16 `eval_mirror`)

Each term of the evaluation changes sign.  Every loop of the evaluation is a fold over the squares of a bitboard, and
a flipped board is not iterated in flipped order: `foldl_flip` is the one lemma about these folds, for a step that
commutes with the flip and does not depend on the order.
-/

namespace Tcheran
open Board Geometry Eval

theorem mirror_byKind (b : Board) (k : PieceKind) : b.mirror.byKind k = BB.flipV (b.byKind k) := by
  cases k <;> rfl

theorem mirror_occFor (b : Board) (p : Player) : b.mirror.occFor p.other = BB.flipV (b.occFor p) := by
  cases p <;> rfl

theorem occFor_mirror (b : Board) (p : Player) : b.mirror.occFor p = BB.flipV (b.occFor p.other) := by
  cases p <;> rfl

theorem mirror_occupancy (b : Board) : b.mirror.occupancy = BB.flipV b.occupancy := by
  show BB.flipV b.black ||| BB.flipV b.white = BB.flipV (b.white ||| b.black)
  rw [flipV_or, BitVec.or_comm]

theorem mirror_allDiag (b : Board) : b.mirror.allDiagSliders = BB.flipV b.allDiagSliders := by
  show BB.flipV b.bishops ||| BB.flipV b.queens = BB.flipV (b.bishops ||| b.queens)
  rw [flipV_or]

theorem mirror_allOrth (b : Board) : b.mirror.allOrthSliders = BB.flipV b.allOrthSliders := by
  show BB.flipV b.rooks ||| BB.flipV b.queens = BB.flipV (b.rooks ||| b.queens)
  rw [flipV_or]

theorem mirror_piecesOf (b : Board) (k : PieceKind) (p : Player) :
    b.mirror.piecesOf k p.other = BB.flipV (b.piecesOf k p) := by
  unfold Board.piecesOf
  rw [mirror_byKind, mirror_occFor, flipV_and]

theorem mirror_pawnsOf (b : Board) (p : Player) : b.mirror.pawnsOf p.other = BB.flipV (b.pawnsOf p) :=
  mirror_piecesOf b .pawn p
theorem mirror_knightsOf (b : Board) (p : Player) : b.mirror.knightsOf p.other = BB.flipV (b.knightsOf p) :=
  mirror_piecesOf b .knight p
theorem mirror_bishopsOf (b : Board) (p : Player) : b.mirror.bishopsOf p.other = BB.flipV (b.bishopsOf p) :=
  mirror_piecesOf b .bishop p
theorem mirror_rooksOf (b : Board) (p : Player) : b.mirror.rooksOf p.other = BB.flipV (b.rooksOf p) :=
  mirror_piecesOf b .rook p
theorem mirror_queensOf (b : Board) (p : Player) : b.mirror.queensOf p.other = BB.flipV (b.queensOf p) :=
  mirror_piecesOf b .queen p
theorem mirror_kingOf (b : Board) (p : Player) : b.mirror.kingOf p.other = BB.flipV (b.kingOf p) :=
  mirror_piecesOf b .king p

theorem mirror_pieceAt (b : Board) (s : Sq) : b.mirror.pieceAt s = (b.pieceAt s.flip).map Piece.swap := by
  unfold Board.pieceAt Board.mirror
  simp only [Vector.getElem_ofFn]

theorem mirror_pieceAt_flip (b : Board) (s : Sq) : b.mirror.pieceAt s.flip = (b.pieceAt s).map Piece.swap := by
  rw [mirror_pieceAt, flip_flip]

theorem mirror_consistent (b : Board) (hc : Consistent b) : Consistent b.mirror := by
  constructor
  · intro k s
    rw [mirror_byKind, mem_flipV, hc.1 k s.flip, mirror_pieceAt]
    cases b.pieceAt s.flip <;> simp [Piece.swap]
  · intro p s
    rw [occFor_mirror, mem_flipV, hc.2 p.other s.flip, mirror_pieceAt]
    cases h : b.pieceAt s.flip with
    | none => simp
    | some pc =>
      obtain ⟨k, q⟩ := pc
      cases p <;> cases q <;> simp [Piece.swap, Player.other]

theorem swap_swap (pc : Piece) : pc.swap.swap = pc := by
  obtain ⟨k, q⟩ := pc; cases q <;> rfl

theorem mirror_mirror (b : Board) : b.mirror.mirror = b := by
  have hsq : b.mirror.mirror.squares = b.squares := by
    apply squares_ext
    intro s
    have h1 : b.mirror.mirror.pieceAt s = b.pieceAt s := by
      rw [mirror_pieceAt, mirror_pieceAt, flip_flip]
      cases b.pieceAt s with
      | none => rfl
      | some pc => simp only [Option.map_some, swap_swap]
    exact h1
  obtain ⟨p, n, bi, r, q, k, w, bl, sq⟩ := b
  simp only [Board.mirror, flipV_flipV, Board.mk.injEq, true_and]
  exact hsq

theorem mirror_board (c : Cfg) (g : Game) : (Game.mirror c g).board = g.board.mirror := rfl
theorem mirror_player (c : Cfg) (g : Game) : (Game.mirror c g).player = g.player.other := rfl
theorem mirror_ep (c : Cfg) (g : Game) : (Game.mirror c g).ep = g.ep.map Sq.flip := rfl
-- not `rfl`: at default transparency it evaluates `incInit` before it reduces the projection
theorem mirror_inc (c : Cfg) (g : Game) : (Game.mirror c g).inc = Game.incInit c g.board.mirror := by
  rw [Game.mirror, Game.fromState]

theorem mirror_src (mv : Move) : mv.mirror.src = mv.src.flip := rfl
theorem mirror_dst (mv : Move) : mv.mirror.dst = mv.dst.flip := rfl
theorem mirror_isEnPassant (mv : Move) : mv.mirror.isEnPassant = mv.isEnPassant := rfl
theorem mirror_promotion (mv : Move) : mv.mirror.promotion = mv.promotion := rfl

theorem ray_flip (d : Dir) (s : Sq) : Rules.ray d.flipV s.flip = (Rules.ray d s).map Sq.flip := by
  have go (n : Nat) : ∀ c : Sq, Rules.ray.go d.flipV n c.flip = (Rules.ray.go d n c).map Sq.flip := by
    induction n with
    | zero => exact fun _ => rfl
    | succ n ih =>
      intro c
      unfold Rules.ray.go
      rw [step_flip]
      cases c.step d with
      | none => rfl
      | some t => exact congrArg (t.flip :: ·) (ih t)
  exact go 7 s

theorem seen_map_flip (occ : Sq → Bool) (l : List Sq) :
    seen (fun t => occ t.flip) (l.map Sq.flip) = (seen occ l).map Sq.flip := by
  induction l with
  | nil => rfl
  | cons x xs ih =>
    simp only [List.map_cons, seen, flip_flip]
    split
    · rfl
    · rw [ih]; rfl

theorem slideSpec_flip (dirs : List Dir) (hcl : ∀ d ∈ dirs, d.flipV ∈ dirs) (s : Sq) (occ : BB) :
    slideSpec dirs s.flip (BB.flipV occ) = BB.flipV (slideSpec dirs s occ) := by
  have key (d : Dir) (t : Sq) :
      t ∈ seen (mem (BB.flipV occ)) (Rules.ray d.flipV s.flip) ↔ t.flip ∈ seen (mem occ) (Rules.ray d s) := by
    rw [ray_flip, funext (mem_flipV occ), seen_map_flip, mem_map_flip]
  apply ext_mem; intro t
  rw [mem_flipV, Bool.eq_iff_iff, slideSpec, slideSpec, mem_setOf, mem_setOf, List.mem_flatMap, List.mem_flatMap]
  constructor
  · rintro ⟨d, hd, ht⟩
    exact ⟨d.flipV, hcl d hd, (key d.flipV t).1 (by rwa [Dir.flipV_flipV])⟩
  · rintro ⟨d, hd, ht⟩
    exact ⟨d.flipV, hcl d hd, (key d t).2 ht⟩

theorem rookAttacks_flip (T : SliderTables) (s : Sq) (occ : BB) :
    rookAttacks s.flip (BB.flipV occ) = BB.flipV (rookAttacks s occ) := by
  rw [T.rook, T.rook]
  exact slideSpec_flip Dir.cardinal (by decide) s occ

theorem bishopAttacks_flip (T : SliderTables) (s : Sq) (occ : BB) :
    bishopAttacks s.flip (BB.flipV occ) = BB.flipV (bishopAttacks s occ) := by
  rw [T.bishop, T.bishop]
  exact slideSpec_flip Dir.diagonal (by decide) s occ

/-- the leaper tables hold unions of shifts of the one-square board; the flip commutes with each shift, and the union
comes out in another order -/
theorem knightAttacks_flip (s : Sq) : knightAttacks s.flip = BB.flipV (knightAttacks s) := by
  rw [knightAttacks_eq, knightAttacks_eq]
  unfold genKnightAttacks
  simp only [flipV_or, flipV_north, flipV_south, flipV_east, flipV_west, flipV_northEast, flipV_southEast,
    flipV_southWest, flipV_northWest, flipV_bb]
  ac_rfl

theorem kingAttacks_flip (s : Sq) : kingAttacks s.flip = BB.flipV (kingAttacks s) := by
  rw [kingAttacks_eq, kingAttacks_eq]
  simp only [genKingAttacks, Dir.all, List.foldl_cons, List.foldl_nil, flipV_or, flipV_zero, flipV_inDir, flipV_bb,
    Dir.flipV]
  ac_rfl

theorem pawnAttacks_flip (s : Sq) (p : Player) : pawnAttacks s.flip p.other = BB.flipV (pawnAttacks s p) := by
  rw [pawnAttacks_eq, pawnAttacks_eq]
  unfold genPawnAttacks
  simp only [flipV_or, flipV_west, flipV_east, flipV_forward, flipV_bb]

/-- `l'`: the squares of a flipped board come in another order than the flipped squares of the board, hence `comm` -/
theorem foldl_flip {σ : Type} {f f' : σ → Sq → σ} {R : σ → σ} (h : ∀ st p, f' (R st) p.flip = R (f st p))
    (comm : ∀ st x y, f' (f' st x) y = f' (f' st y) x) {l l' : List Sq} (hp : l'.Perm (l.map Sq.flip)) (st : σ) :
    l'.foldl f' (R st) = R (l.foldl f st) := by
  rw [hp.foldl_eq' fun x _ y _ z => comm z x y]
  clear hp
  induction l generalizing st with
  | nil => rfl
  | cons x xs ih => rw [List.map_cons, List.foldl_cons, List.foldl_cons, h, ih]

def flipSt (st : Option (Int × BB)) : Option (Int × BB) := st.map fun p => (p.1, BB.flipV p.2)

theorem mobStep_comm (safe : BB) (tbl : Array (Int × Int)) (moves : Sq → BB) (st : Option (Int × BB)) (x y : Sq) :
    mobStep safe tbl moves (mobStep safe tbl moves st x) y = mobStep safe tbl moves (mobStep safe tbl moves st y) x := by
  cases st with
  | none => rfl
  | some p =>
    obtain ⟨e, att⟩ := p
    cases hx : tbl[BB.count (moves x &&& safe)]? <;> cases hy : tbl[BB.count (moves y &&& safe)]? <;>
      simp only [mobStep_some, mobStep_none, hx, hy, Option.map_some, Option.map_none]
    rw [Int.add_right_comm, show att ||| moves x ||| moves y = att ||| moves y ||| moves x by ac_rfl]

theorem mobStep_flip (safe : BB) (tbl : Array (Int × Int)) (moves moves' : Sq → BB)
    (h : ∀ p : Sq, moves' p.flip = BB.flipV (moves p)) (st : Option (Int × BB)) (p : Sq) :
    mobStep (BB.flipV safe) tbl moves' (flipSt st) p.flip = flipSt (mobStep safe tbl moves st p) := by
  cases st with
  | none => rfl
  | some q =>
    obtain ⟨e, att⟩ := q
    rw [flipSt, Option.map_some, mobStep_some, mobStep_some, h p, ← flipV_and, count_flipV]
    cases tbl[BB.count (moves p &&& safe)]? with
    | none => rfl
    | some v => simp only [flipSt, Option.map_some, flipV_or]

theorem mobFold_flip (safe : BB) (tbl : Array (Int × Int)) (moves moves' : Sq → BB)
    (h : ∀ p : Sq, moves' p.flip = BB.flipV (moves p)) (X : BB) (st : Option (Int × BB)) :
    (BB.toList (BB.flipV X)).foldl (mobStep (BB.flipV safe) tbl moves') (flipSt st) =
      flipSt ((BB.toList X).foldl (mobStep safe tbl moves) st) :=
  foldl_flip (mobStep_flip safe tbl moves moves' h) (mobStep_comm _ tbl moves') (toList_flipV_perm X) st

theorem safeSquares_mirror (b : Board) (pl : Player) :
    safeSquares b.mirror pl.other = BB.flipV (safeSquares b pl) := by
  unfold safeSquares
  simp only []
  rw [mirror_pawnsOf b pl.other, ← flipV_forward, flipV_not, flipV_or, flipV_west, flipV_east]

theorem lsbSq_flipV (K : BB) (h : BB.count K ≤ 1) : BB.lsbSq? (BB.flipV K) = (BB.lsbSq? K).map Sq.flip := by
  unfold BB.lsbSq?
  have hp := toList_flipV_perm K
  unfold BB.count at h
  -- a list of at most one element has only one order
  match hl : BB.toList K, h with
  | [], _ => rw [hl] at hp; rw [hp.eq_nil]; rfl
  | [k], _ => rw [hl] at hp; rw [hp.eq_singleton]; rfl
  | _ :: _ :: _, h => simp at h

theorem mobilityFor_mirror (T : SliderTables) (b : Board) (pl : Player) (hk : BB.count (b.kingOf pl.other) ≤ 1) :
    mobilityFor b.mirror pl.other = mobilityFor b pl := by
  unfold mobilityFor
  simp only [Option.bind_eq_bind, Option.pure_def]
  rw [mirror_occupancy, safeSquares_mirror, mirror_knightsOf, mirror_bishopsOf, mirror_rooksOf, mirror_queensOf]
  -- the loops start from a state that is its own flip, and each hands the flipped state on to the next
  have h0 : (some ((0 : Int), 0#64) : Option (Int × BB)) = flipSt (some (0, 0#64)) := by
    simp [flipSt, flipV_zero]
  rw [h0, mobFold_flip _ _ knightAttacks knightAttacks knightAttacks_flip,
    mobFold_flip _ _ (fun p => bishopAttacks p b.occupancy) (fun p => bishopAttacks p (BB.flipV b.occupancy))
      (fun p => bishopAttacks_flip T p _),
    mobFold_flip _ _ (fun p => rookAttacks p b.occupancy) (fun p => rookAttacks p (BB.flipV b.occupancy))
      (fun p => rookAttacks_flip T p _),
    mobFold_flip _ _ (fun p => bishopAttacks p b.occupancy ||| rookAttacks p b.occupancy)
      (fun p => bishopAttacks p (BB.flipV b.occupancy) ||| rookAttacks p (BB.flipV b.occupancy))
      (fun p => by simp only [bishopAttacks_flip T, rookAttacks_flip T, flipV_or]), ← h0]
  generalize (BB.toList (b.queensOf pl)).foldl _ _ = st
  rw [show b.mirror.kingOf pl.other.other = BB.flipV (b.kingOf pl.other) from mirror_kingOf b pl.other,
    lsbSq_flipV _ hk]
  -- `rfl` would not do for the `none`s: it compares the two continuations first, which still differ
  cases st with
  | none => simp only [flipSt, Option.map_none, Option.bind_none]
  | some q =>
    cases BB.lsbSq? (b.kingOf pl.other) with
    | none => simp only [flipSt, Option.map_some, Option.map_none, Option.bind_some, Option.bind_none]
    | some ek => simp only [flipSt, Option.map_some, Option.bind_some, kingAttacks_flip, ← flipV_and, count_flipV]

theorem mobility_mirror (T : SliderTables) (b : Board) (hw : BB.count (b.kingOf .white) ≤ 1)
    (hb : BB.count (b.kingOf .black) ≤ 1) : mobility b.mirror = (mobility b).map (fun x => -x) := by
  unfold mobility
  simp only [Option.bind_eq_bind, Option.pure_def]
  rw [show mobilityFor b.mirror .white = mobilityFor b .black from mobilityFor_mirror T b .black hw,
    show mobilityFor b.mirror .black = mobilityFor b .white from mobilityFor_mirror T b .white hb]
  cases mobilityFor b .white <;> cases mobilityFor b .black <;> simp
  omega

theorem bishopPair_mirror (b : Board) : bishopPair b.mirror = -(bishopPair b) := by
  unfold bishopPair
  simp only []
  rw [show b.mirror.bishopsOf .white = BB.flipV (b.bishopsOf .black) from mirror_bishopsOf b .black,
    show b.mirror.bishopsOf .black = BB.flipV (b.bishopsOf .white) from mirror_bishopsOf b .white,
    count_flipV, count_flipV]
  omega

theorem passedMask_flip_white : ∀ s : Sq, passedMask .black s.flip = BB.flipV (passedMask .white s) := by
  decide +kernel

theorem passedMask_flip (pl : Player) (s : Sq) : passedMask pl.other s.flip = BB.flipV (passedMask pl s) := by
  cases pl
  · exact passedMask_flip_white s
  · have := passedMask_flip_white s.flip
    rw [flip_flip] at this
    show passedMask .white s.flip = _
    rw [this, flipV_flipV]

theorem whiteIdx_eq (s : Sq) : whiteIdx s = blackIdx s.flip := by
  have := flip_coords s
  unfold Sq.file Sq.rank at this
  unfold whiteIdx blackIdx
  omega

/-- White reads every table at the rank-flipped index and Black negates what it reads: the colour symmetry of the
piece-square values holds by construction, whatever the tables contain -/
theorem pst_flip (pl : Player) (k : PieceKind) (s : Sq) : pst pl.other k s.flip = -(pst pl k s) := by
  cases pl <;> simp only [pst, Player.other, whiteIdx_eq, flip_flip, Int.neg_neg]

theorem passedPst_flip (pl : Player) (s : Sq) : passedPst pl.other s.flip = -(passedPst pl s) := by
  cases pl <;> simp only [passedPst, Player.other, whiteIdx_eq, flip_flip, Int.neg_neg]

theorem condSum_flip {c c' : Sq → Bool} {w w' : Sq → Int} (hc : ∀ s, c' s.flip = c s) (hw : ∀ s, w' s.flip = -(w s))
    {l l' : List Sq} (hp : l'.Perm (l.map Sq.flip)) :
    l'.foldl (fun acc s => if c' s then acc + w' s else acc) 0 =
      -(l.foldl (fun acc s => if c s then acc + w s else acc) 0) := by
  refine foldl_flip (R := fun x : Int => -x) (fun acc s => ?_) (fun acc x y => ?_) hp 0
  · simp only [hc, hw]
    split <;> omega
  · split <;> split <;> omega

theorem passedBonus_mirror (b : Board) (pl : Player) : passedBonus b.mirror pl.other = -(passedBonus b pl) := by
  unfold passedBonus
  rw [show b.mirror.pawnsOf pl.other.other = BB.flipV (b.pawnsOf pl.other) from mirror_pawnsOf b pl.other,
    mirror_pawnsOf b pl]
  exact condSum_flip (fun s => by rw [passedMask_flip, ← flipV_and, Bool.eq_iff_iff, beq_iff_eq, beq_iff_eq, flipV_eq_zero])
    (passedPst_flip pl) (toList_flipV_perm _)

theorem pawnStructure_mirror (b : Board) : pawnStructure b.mirror = -(pawnStructure b) := by
  unfold pawnStructure
  rw [show passedBonus b.mirror .white = -(passedBonus b .black) from passedBonus_mirror b .black,
    show passedBonus b.mirror .black = -(passedBonus b .white) from passedBonus_mirror b .white]
  omega

def negInc (a : Inc) : Inc := ⟨a.phase, -a.pst⟩

theorem incStep_comm (b : Board) (acc : Inc) (x y : Sq) :
    incStep b (incStep b acc x) y = incStep b (incStep b acc y) x := by
  unfold incStep
  cases b.pieceAt x <;> cases b.pieceAt y <;> simp only []
  congr 1 <;> omega

theorem incStep_flip (b : Board) (acc : Inc) (s : Sq) :
    incStep b.mirror (negInc acc) s.flip = negInc (incStep b acc s) := by
  unfold incStep
  rw [mirror_pieceAt_flip]
  cases b.pieceAt s with
  | none => rfl
  | some pc =>
    simp only [Option.map_some, Piece.swap, negInc, pst_flip]
    congr 1
    omega

theorem incInit_mirror (b : Board) : Game.incInit theCfg b.mirror = negInc (Game.incInit theCfg b) := by
  rw [incInit_eq, incInit_eq]
  exact foldl_flip (incStep_flip b) (incStep_comm b.mirror) finRange_flip_perm ⟨0, 0⟩

namespace Eval

theorem eval_mirror_counts (T : SliderTables) (g : Game) (h : EvalOk g) :
    eval (Game.mirror theCfg g) = eval g := by
  obtain ⟨mob, hmob, hph, hbox⟩ := total_box T g h
  obtain ⟨v, hv, hnv, v1, v2⟩ := forPhase_box g.inc.phase hbox (by omega) (by omega) hph
  have hmob' : mobility (Game.mirror theCfg g).board = some (-mob) := by
    rw [mirror_board, mobility_mirror T g.board
      (Nat.le_of_eq ((count_kingOf _ h.cons .white).trans (h.king .white)))
      (Nat.le_of_eq ((count_kingOf _ h.cons .black).trans (h.king .black))), hmob]
    rfl
  -- every term of the sum has changed sign, so White's view of the mirrored position is the blend of the negated sum
  have habs' : absoluteEval (Game.mirror theCfg g) = some (-v) := by
    rw [absoluteEval_eq _ hmob', mirror_board, mirror_inc, incInit_mirror, ← h.inc, bishopPair_mirror,
      pawnStructure_mirror, ← hnv]
    congr 1
    simp only [negInc]; omega
  rw [eval_of_absolute ((absoluteEval_eq g hmob).trans hv) (by omega), eval_of_absolute habs' (by omega), mirror_player]
  cases g.player <;> simp only [Player.other, Int.neg_neg]

end Eval

end Tcheran
