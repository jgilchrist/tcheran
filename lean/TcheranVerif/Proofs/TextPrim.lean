import TcheranVerif.Proofs.ListAux
import TcheranVerif.Model.UciMove
import TcheranVerif.Proofs.Bits
/-!
# What the readers of the three text formats share (FEN, SAN, long-algebraic move text)

* A scan over `a ++ r` by a predicate that holds throughout `a` and fails at the head of `r` (`StopsAt`) takes
  exactly `a` and leaves `r`: every `many`, `digit1` and "split at the first" of the readers is an instance.
* The two characters of a square have the codes `97 + file`, `49 + rank`, so `Sq.ofNotation?` reads them back. The
  move-text reader is two such squares and a letter, which is why its round trip `parseMove_text` sits here.
-/

namespace Tcheran

def StopsAt {α} (p : α → Bool) (l : List α) : Prop := ∀ c, l.head? = some c → p c = false

theorem stopsAt_nil {α} (p : α → Bool) : StopsAt p [] := fun _ h => by cases h

theorem stopsAt_cons {α} {p : α → Bool} {c : α} {l : List α} : StopsAt p (c :: l) ↔ p c = false :=
  ⟨fun h => h c rfl, fun h _ e => by cases e; exact h⟩

theorem takeWhile_stop {α} {p : α → Bool} {a r : List α} (ha : ∀ c ∈ a, p c = true) (hr : StopsAt p r) :
    (a ++ r).takeWhile p = a := by
  rw [List.takeWhile_append_of_pos ha]
  cases r with
  | nil => simp
  | cons c cs => simp [stopsAt_cons.1 hr]

theorem dropWhile_stop {α} {p : α → Bool} {a r : List α} (ha : ∀ c ∈ a, p c = true) (hr : StopsAt p r) :
    (a ++ r).dropWhile p = r := by
  rw [List.dropWhile_append_of_pos ha]
  cases r with
  | nil => simp
  | cons c cs => simp [stopsAt_cons.1 hr]

theorem Sq.fileChar_toNat (s : Sq) : (fileChar s.file).toNat = 97 + s.file :=
  (by decide : ∀ f : Fin 8, (fileChar f).toNat = 97 + f) ⟨_, s.file_lt⟩
theorem Sq.rankChar_toNat (s : Sq) : (rankChar s.rank).toNat = 49 + s.rank :=
  (by decide : ∀ r : Fin 8, (rankChar r).toNat = 49 + r) ⟨_, s.rank_lt⟩

theorem Sq.notation_toList (s : Sq) : s.notation.toList = [fileChar s.file, rankChar s.rank] :=
  String.toList_ofList

theorem Sq.ofNotation?_chars (s : Sq) : Sq.ofNotation? (fileChar s.file) (rankChar s.rank) = some s := by
  have h1 := s.file_lt
  have h2 := s.rank_lt
  unfold Sq.ofNotation?
  simp only [s.fileChar_toNat, s.rankChar_toNat]
  rw [if_pos (by omega), Nat.add_sub_cancel_left, Nat.add_sub_cancel_left]
  exact s.mk?_file_rank

namespace UciMove

theorem parseSquare_chars (s : Sq) (rest : List Char) :
    parseSquare (fileChar s.file :: rankChar s.rank :: rest) = some (s, rest) := by
  simp only [parseSquare, s.ofNotation?_chars, Option.map_some]

theorem promoOfChar?_char (p : Promo) : promoOfChar? p.char = some p := by cases p <;> rfl

theorem parseMove_text (t : Text) : parseMove (text t) = some (t, []) := by
  obtain ⟨s, d, p⟩ := t
  unfold parseMove text
  simp only [List.cons_append, List.nil_append, parseSquare_chars, Option.bind_eq_bind, Option.bind_some]
  cases p with
  | none => rfl
  | some p => simp only [promoOfChar?_char]; rfl

end UciMove
end Tcheran
