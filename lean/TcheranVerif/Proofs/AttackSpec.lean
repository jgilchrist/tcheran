import TcheranVerif.Model.Rules
import TcheranVerif.Proofs.Magic
import TcheranVerif.Proofs.Board
import TcheranVerif.Proofs.Geo.Steps
import TcheranVerif.Model.Movegen
/-!
# The engine's attacker sets equal the rules' attack relation (first half of C01)

`AttacksFrom b by q t`: on mailbox `b` the man on `q` (of colour `by`) attacks `t`, in the rules' own
terms (offsets, ray walks). The slider tables enter through the hypothesis `SliderTables` (discharged by
`Props.C01.sliderTables` from C07), so that nothing of the C01 layer waits for the sweep over the tables
(`Proofs/Sweep.lean`).
-/

namespace Tcheran
open Board Geometry Rules

structure SliderTables : Prop where
  rook : ∀ (s : Sq) (occ : BB), rookAttacks s occ = rookSpec s occ
  bishop : ∀ (s : Sq) (occ : BB), bishopAttacks s occ = bishopSpec s occ

def occOf (b : RBoard) (s : Sq) : Bool := (at' b s).isSome

theorem occOf_eq_false {b : RBoard} {s : Sq} : occOf b s = false ↔ at' b s = none := by
  unfold occOf
  cases at' b s <;> simp

def Own (b : RBoard) (p : Player) (s : Sq) : Prop := ∃ X, at' b s = some X ∧ X.player = p

theorem Own.occ {b : RBoard} {p : Player} {s : Sq} (hs : Own b p s) : occOf b s = true := by
  obtain ⟨X, hX, _⟩ := hs
  unfold occOf; rw [hX]; rfl

/-- "held by the other side" as the rules write it (`Lands`, `CapPre`) -/
theorem own_other_iff {b : RBoard} {p : Player} {s : Sq} :
    Own b p.other s ↔ ∃ pc, at' b s = some pc ∧ pc.player ≠ p := by
  simp only [Own, ne_iff_other]

theorem Own.ne_other {b : RBoard} {p : Player} {s q : Sq} (hs : Own b p s) (hq : Own b p.other q) : s ≠ q := by
  rintro rfl
  obtain ⟨X, hX, hXp⟩ := hs
  obtain ⟨Y, hY, hYp⟩ := own_other_iff.1 hq
  rw [hX] at hY
  cases hY
  exact hYp hXp

theorem firstOccupied_iff (b : RBoard) (l : List Sq) (q : Sq) (pc : Piece) :
    firstOccupied b l = some (q, pc) ↔ (q ∈ seen (occOf b) l ∧ at' b q = some pc) := by
  induction l with
  | nil => simp [firstOccupied, seen]
  | cons x xs ih =>
    unfold firstOccupied seen
    cases hx : at' b x with
    | some px =>
      simp only [occOf, hx, Option.isSome_some, if_true, List.mem_singleton, Option.some.injEq, Prod.mk.injEq]
      constructor
      · rintro ⟨rfl, rfl⟩; exact ⟨rfl, hx⟩
      · rintro ⟨rfl, h⟩; exact ⟨rfl, Option.some.inj (hx.symm.trans h)⟩
    | none =>
      simp only [occOf, hx, Option.isSome_none, Bool.false_eq_true, if_false, List.mem_cons, ih]
      constructor
      · rintro ⟨a, c⟩; exact ⟨Or.inr a, c⟩
      · rintro ⟨rfl | a, c⟩
        · rw [hx] at c; cases c
        · exact ⟨a, c⟩

def AttacksFrom (b : RBoard) (by' : Player) (q t : Sq) : Prop :=
  ∃ k, at' b q = some ⟨k, by'⟩ ∧
    ((k = .pawn ∧ (offset t (-1) (-(fwd by')) = some q ∨ offset t 1 (-(fwd by')) = some q)) ∨
     (k = .knight ∧ ∃ d ∈ knightDeltas, offset t d.1 d.2 = some q) ∨
     (k = .king ∧ ∃ d ∈ kingDeltas, offset t d.1 d.2 = some q) ∨
     ((k = .bishop ∨ k = .queen) ∧ ∃ d ∈ Dir.diagonal, q ∈ seen (occOf b) (ray d t)) ∨
     ((k = .rook ∨ k = .queen) ∧ ∃ d ∈ Dir.cardinal, q ∈ seen (occOf b) (ray d t)))

theorem isPiece_iff (b : RBoard) (o : Option Sq) (k : PieceKind) (p : Player) :
    isPiece b o k p = true ↔ ∃ q, o = some q ∧ at' b q = some ⟨k, p⟩ := by
  unfold isPiece
  cases o with
  | none => simp
  | some s => simp

theorem sliderAny_iff (b : RBoard) (by' : Player) (t : Sq) (dirs : List Dir) (k1 : PieceKind) :
    (dirs.any (sliderHit b by' t k1)) = true ↔
    ∃ q k, at' b q = some ⟨k, by'⟩ ∧ (k = k1 ∨ k = .queen) ∧ ∃ d ∈ dirs, q ∈ seen (occOf b) (ray d t) := by
  rw [List.any_eq_true]
  constructor
  · rintro ⟨d, hd, h⟩
    unfold sliderHit at h
    split at h
    · rename_i q pc hf
      obtain ⟨hs, ha⟩ := (firstOccupied_iff b _ q pc).1 hf
      simp only [Bool.and_eq_true, Bool.or_eq_true, beq_iff_eq] at h
      obtain ⟨kk, pl⟩ := pc
      obtain ⟨rfl, hk⟩ := h
      exact ⟨q, kk, ha, hk, d, hd, hs⟩
    · cases h
  · rintro ⟨q, k, ha, hk, d, hd, hs⟩
    refine ⟨d, hd, ?_⟩
    unfold sliderHit
    rw [(firstOccupied_iff b _ q ⟨k, by'⟩).2 ⟨hs, ha⟩]
    simpa using hk

theorem attacked_iff (b : RBoard) (by' : Player) (t : Sq) :
    attacked b by' t = true ↔ ∃ q, AttacksFrom b by' q t := by
  unfold attacked
  simp only [Bool.or_eq_true]
  rw [sliderAny_iff, sliderAny_iff]
  simp only [List.any_eq_true, isPiece_iff]
  constructor
  · rintro (((((⟨q, e, a⟩ | ⟨q, e, a⟩) | ⟨d, hd, q, e, a⟩) | ⟨d, hd, q, e, a⟩) | ⟨q, k, a, hk, h⟩) | ⟨q, k, a, hk, h⟩)
    · exact ⟨q, .pawn, a, Or.inl ⟨rfl, Or.inl e⟩⟩
    · exact ⟨q, .pawn, a, Or.inl ⟨rfl, Or.inr e⟩⟩
    · exact ⟨q, .knight, a, Or.inr (Or.inl ⟨rfl, d, hd, e⟩)⟩
    · exact ⟨q, .king, a, Or.inr (Or.inr (Or.inl ⟨rfl, d, hd, e⟩))⟩
    · exact ⟨q, k, a, Or.inr (Or.inr (Or.inr (Or.inl ⟨hk, h⟩)))⟩
    · exact ⟨q, k, a, Or.inr (Or.inr (Or.inr (Or.inr ⟨hk, h⟩)))⟩
  · rintro ⟨q, k, a, ⟨rfl, e | e⟩ | ⟨rfl, d, hd, e⟩ | ⟨rfl, d, hd, e⟩ | ⟨hk, h⟩ | ⟨hk, h⟩⟩
    · exact Or.inl (Or.inl (Or.inl (Or.inl (Or.inl ⟨q, e, a⟩))))
    · exact Or.inl (Or.inl (Or.inl (Or.inl (Or.inr ⟨q, e, a⟩))))
    · exact Or.inl (Or.inl (Or.inl (Or.inr ⟨d, hd, q, e, a⟩)))
    · exact Or.inl (Or.inl (Or.inr ⟨d, hd, q, e, a⟩))
    · exact Or.inl (Or.inr ⟨q, k, a, hk, h⟩)
    · exact Or.inr ⟨q, k, a, hk, h⟩

/-- the rules read the mailbox of a `Board` through `at'`, the board operations through `pieceAt` -/
theorem at'_squares (b : Board) (s : Sq) : at' b.squares s = b.pieceAt s := rfl

theorem mem_kindOf (b : Board) (hc : Consistent b) (k : PieceKind) (p : Player) (s : Sq) :
    mem (b.piecesOf k p) s = true ↔ at' b.squares s = some ⟨k, p⟩ := by
  rw [mem_piecesOf b hc, decide_eq_true_iff, at'_squares]

theorem mem_pawnsOf (b : Board) (hc : Consistent b) (p : Player) (s : Sq) :
    mem (b.pawnsOf p) s = true ↔ at' b.squares s = some ⟨.pawn, p⟩ := mem_kindOf b hc .pawn p s

theorem mem_knightsOf (b : Board) (hc : Consistent b) (p : Player) (s : Sq) :
    mem (b.knightsOf p) s = true ↔ at' b.squares s = some ⟨.knight, p⟩ := mem_kindOf b hc .knight p s

theorem mem_kingOf (b : Board) (hc : Consistent b) (p : Player) (s : Sq) :
    mem (b.kingOf p) s = true ↔ at' b.squares s = some ⟨.king, p⟩ := mem_kindOf b hc .king p s

theorem mem_occupancy (b : Board) (hc : Consistent b) (s : Sq) :
    mem b.occupancy s = occOf b.squares s := by
  rw [occOf, at'_squares, occupancy, ← occFor, ← occFor, mem_or, hc.2, hc.2]
  cases b.pieceAt s with
  | none => rfl
  | some pc => obtain ⟨k, pl⟩ := pc; cases pl <;> rfl

theorem mem_occFor (b : Board) (hc : Consistent b) (p : Player) (s : Sq) :
    mem (b.occFor p) s = true ↔ Own b.squares p s := by
  rw [hc.2 p s, Own, at'_squares]
  cases b.pieceAt s <;> simp

theorem mem_diagSliders (b : Board) (hc : Consistent b) (p : Player) (s : Sq) :
    mem (b.diagSliders p) s = true ↔ (at' b.squares s = some ⟨.bishop, p⟩ ∨ at' b.squares s = some ⟨.queen, p⟩) := by
  unfold diagSliders
  rw [mem_or, Bool.or_eq_true]
  exact or_congr (mem_kindOf b hc .bishop p s) (mem_kindOf b hc .queen p s)

theorem mem_orthSliders (b : Board) (hc : Consistent b) (p : Player) (s : Sq) :
    mem (b.orthSliders p) s = true ↔ (at' b.squares s = some ⟨.rook, p⟩ ∨ at' b.squares s = some ⟨.queen, p⟩) := by
  unfold orthSliders
  rw [mem_or, Bool.or_eq_true]
  exact or_congr (mem_kindOf b hc .rook p s) (mem_kindOf b hc .queen p s)

theorem mem_knightAttacks (t q : Sq) :
    mem (knightAttacks t) q = true ↔ ∃ d ∈ knightDeltas, offset t d.1 d.2 = some q := by
  rw [knightAttacks_eq, genKnight_geometric, knightSpec, mem_setOf, List.mem_filterMap]

theorem mem_kingAttacks (t q : Sq) :
    mem (kingAttacks t) q = true ↔ ∃ d ∈ kingDeltas, offset t d.1 d.2 = some q := by
  rw [kingAttacks_eq, genKing_geometric, kingSpec, mem_setOf, List.mem_filterMap]

theorem mem_pawnAttacks (t q : Sq) (p : Player) :
    mem (pawnAttacks t p) q = true ↔ (offset t (-1) (fwd p) = some q ∨ offset t 1 (fwd p) = some q) := by
  rw [pawnAttacks_eq, genPawn_geometric p t, pawnSpec, mem_setOf]
  simp [List.mem_filterMap]

theorem mem_sliderAttacks (b : Board) (hc : Consistent b) (dirs : List Dir) (t q : Sq) :
    mem (slideSpec dirs t b.occupancy) q = true ↔ ∃ d ∈ dirs, q ∈ seen (occOf b.squares) (ray d t) := by
  simp only [mem_slideSpec, mem_seen_ray, mem_occupancy b hc]

/-- `Props.C01.attackers_exact` (`generate_attackers_of`) -/
theorem mem_attackersOf (T : SliderTables) (b : Board) (hc : Consistent b) (p : Player) (t q : Sq) :
    mem (attackersOf b p t) q = true ↔ AttacksFrom b.squares p.other q t := by
  unfold attackersOf
  -- each of the five terms is "the attack table reaches `q`" and "a man of that kind stands on `q`"
  simp only [mem_or, mem_and, Bool.or_eq_true, Bool.and_eq_true]
  rw [mem_pawnAttacks, mem_knightAttacks, mem_kingAttacks, T.bishop, T.rook, bishopSpec, rookSpec,
    mem_sliderAttacks b hc, mem_sliderAttacks b hc, mem_diagSliders b hc, mem_orthSliders b hc,
    mem_pawnsOf b hc, mem_knightsOf b hc, mem_kingOf b hc, fwd_other p]
  constructor
  · rintro ((((⟨h, a⟩ | ⟨h, a⟩) | ⟨h, a | a⟩) | ⟨h, a | a⟩) | ⟨h, a⟩)
    · exact ⟨_, a, Or.inl ⟨rfl, h⟩⟩
    · exact ⟨_, a, Or.inr (Or.inl ⟨rfl, h⟩)⟩
    · exact ⟨_, a, Or.inr (Or.inr (Or.inr (Or.inl ⟨Or.inl rfl, h⟩)))⟩
    · exact ⟨_, a, Or.inr (Or.inr (Or.inr (Or.inl ⟨Or.inr rfl, h⟩)))⟩
    · exact ⟨_, a, Or.inr (Or.inr (Or.inr (Or.inr ⟨Or.inl rfl, h⟩)))⟩
    · exact ⟨_, a, Or.inr (Or.inr (Or.inr (Or.inr ⟨Or.inr rfl, h⟩)))⟩
    · exact ⟨_, a, Or.inr (Or.inr (Or.inl ⟨rfl, h⟩))⟩
  · rintro ⟨k, a, ⟨rfl, h⟩ | ⟨rfl, h⟩ | ⟨rfl, h⟩ | ⟨rfl | rfl, h⟩ | ⟨rfl | rfl, h⟩⟩
    · exact Or.inl (Or.inl (Or.inl (Or.inl ⟨h, a⟩)))
    · exact Or.inl (Or.inl (Or.inl (Or.inr ⟨h, a⟩)))
    · exact Or.inr ⟨h, a⟩
    · exact Or.inl (Or.inl (Or.inr ⟨h, Or.inl a⟩))
    · exact Or.inl (Or.inl (Or.inr ⟨h, Or.inr a⟩))
    · exact Or.inl (Or.inr ⟨h, Or.inl a⟩)
    · exact Or.inl (Or.inr ⟨h, Or.inr a⟩)

theorem attackersOf_ne_zero (T : SliderTables) (b : Board) (hc : Consistent b) (p : Player) (t : Sq) :
    attackersOf b p t ≠ 0#64 ↔ attacked b.squares p.other t = true := by
  rw [bb_ne_zero_iff, attacked_iff]
  exact exists_congr fun q => mem_attackersOf T b hc p t q

theorem attackersOf_eq_zero (T : SliderTables) (b : Board) (hc : Consistent b) (p : Player) (t : Sq) :
    attackersOf b p t = 0#64 ↔ attacked b.squares p.other t = false := by
  rw [← Bool.not_eq_true, ← attackersOf_ne_zero T b hc p t, Ne, Decidable.not_not]

theorem lsbSq_kingOf (b : Board) (hc : Consistent b) (p : Player) :
    BB.lsbSq? (b.kingOf p) = kingSq b.squares p := by
  rw [lsbSq?_eq_find?, kingSq]
  congr 1
  funext s
  rw [Bool.eq_iff_iff, mem_kingOf b hc, beq_iff_eq]

/-- `Props.C01.check_verdict` (`Board::king_in_check`) -/
theorem kingInCheck_agrees (T : SliderTables) (b : Board) (hc : Consistent b) (p : Player) (k : Sq)
    (hk : kingSq b.squares p = some k) :
    kingInCheck b p = some (inCheck b.squares p) := by
  unfold kingInCheck inCheck
  rw [lsbSq_kingOf b hc p, hk]
  simp only
  congr 1
  rw [Bool.eq_iff_iff, bne_iff_ne]
  exact attackersOf_ne_zero T b hc p k

end Tcheran
