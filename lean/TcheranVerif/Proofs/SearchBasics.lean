import TcheranVerif.Model.Search
import TcheranVerif.Proofs.GameInv
import TcheranVerif.Props.C19
/-!
# Search — the vocabulary of the soundness proof (C04 / C08 / C09)

`Universe`: the positions a search may touch, by distance from the root, closed under legal moves and under null
moves out of check, among which the 64-bit key does not confuse two that have different legal moves (`inj`). That
field is the one assumption every engine that plays its hash move unverified rests on; it cannot be discharged
(pigeonhole), so it is stated. `Universe.ofRoot`: everything reachable from a root (`ReachN`); its `inj` is the
hypothesis `KeyFaithful root`.
-/

namespace Tcheran
namespace Search
open Board Game Rules

def LegalLine : Game → List Move → Prop
  | _, [] => True
  | g, m :: rest => m ∈ legalMoves (ofGame g) ∧ ∃ g', makeMove theCfg g m = some g' ∧ LegalLine g' rest

theorem legalLine_nil (g : Game) : LegalLine g [] := trivial

theorem legalLine_cons (g g' : Game) (m : Move) (rest : List Move) (hl : m ∈ legalMoves (ofGame g))
    (hm : makeMove theCfg g m = some g') (hr : LegalLine g' rest) : LegalLine g (m :: rest) :=
  ⟨hl, g', hm, hr⟩

structure Universe where
  R : Nat → Game → Prop
  inv : ∀ n g, R n g → SInv g
  step : ∀ n g m g', R n g → m ∈ legalMoves (ofGame g) → makeMove theCfg g m = some g' → R (n + 1) g'
  null : ∀ n g, R n g → inCheck g.board.squares g.player = false → R (n + 1) (makeNull theCfg g)
  inj : ∀ n1 n2 g1 g2, R n1 g1 → R n2 g2 → g1.zobrist = g2.zobrist →
    ∀ m, m ∈ legalMoves (ofGame g1) ↔ m ∈ legalMoves (ofGame g2)

inductive ReachN (root : Game) : Nat → Game → Prop
  | root : ReachN root 0 root
  | move (n : Nat) (g g' : Game) (m : Move) : ReachN root n g → m ∈ legalMoves (ofGame g) →
      makeMove theCfg g m = some g' → ReachN root (n + 1) g'
  | null (n : Nat) (g : Game) : ReachN root n g → inCheck g.board.squares g.player = false →
      ReachN root (n + 1) (makeNull theCfg g)

theorem reachN_sinv (root : Game) (h : SInv root) : ∀ n g, ReachN root n g → SInv g := by
  intro n g hr
  induction hr with
  | root => exact h
  | move n g g' m _ hl hm ih => exact (sinv_make g g' m ih hl hm).1
  | null n g _ hc ih => exact sinv_null g ih hc

def KeyFaithful (root : Game) : Prop :=
  ∀ n1 n2 g1 g2, ReachN root n1 g1 → ReachN root n2 g2 → g1.zobrist = g2.zobrist →
    ∀ m, m ∈ legalMoves (ofGame g1) ↔ m ∈ legalMoves (ofGame g2)

def Universe.ofRoot (root : Game) (h : SInv root) (hk : KeyFaithful root) : Universe where
  R := ReachN root
  inv := reachN_sinv root h
  step := fun n g m g' hr hl hm => ReachN.move n g g' m hr hl hm
  null := fun n g hr hc => ReachN.null n g hr hc
  inj := hk

def TTGood (U : Universe) (tt : TT.Table) : Prop :=
  ∀ n g d m, U.R n g → tt.get g.zobrist = some d → d.best = some m → m ∈ legalMoves (ofGame g)

theorem ttGood_newGeneration (U : Universe) (tt : TT.Table) (h : TTGood U tt) : TTGood U tt.newGeneration :=
  fun n g d m hr hg hb => h n g d m hr hg hb

theorem ttGood_insert (U : Universe) (tt : TT.Table) (n : Nat) (g : Game) (d : TT.Data) (h : TTGood U tt)
    (hr : U.R n g) (hb : ∀ m, d.best = some m → m ∈ legalMoves (ofGame g)) :
    TTGood U (tt.insert g.zobrist d) := by
  intro n2 g2 x m hr2 hg hbx
  rcases Props.C19.get_insert_cases tt g.zobrist g2.zobrist d x hg with ⟨hk, hx⟩ | hold
  · subst hx
    exact (U.inj n n2 g g2 hr hr2 hk.symm m).1 (hb m hbx)
  · exact h n2 g2 x m hr2 hold hbx

theorem ttGood_of_empty (U : Universe) (tt : TT.Table) (h : ∀ k, tt.get k = none) : TTGood U tt := by
  intro n g d m _ hg _
  rw [h] at hg; cases hg

theorem ttGood_new (U : Universe) (mb : Nat) : TTGood U (TT.new mb) :=
  ttGood_of_empty U _ (Props.C19.get_new mb)

theorem ttGood_reset (U : Universe) (tt : TT.Table) : TTGood U tt.reset :=
  ttGood_of_empty U _ (Props.C19.reset_empty tt)

theorem poll_tt (c : Ctx) : (poll c).1.tt = c.tt := rfl

theorem inI16_iff (v : Int) : inI16 v = true ↔ -32768 ≤ v ∧ v ≤ 32767 := by
  unfold inI16 i16Min i16Max
  simp only [Bool.and_eq_true, decide_eq_true_eq]

theorem mate_consts : Gen.mate = 32000 ∧ Gen.mateThreshold = 31900 := by decide

theorem isMateInMoves_none (v : Int) (h1 : -31900 ≤ v) (h2 : v ≤ 31900) : isMateInMoves v = none := by
  unfold isMateInMoves
  rw [mate_consts.2, if_neg (by omega), if_neg (by omega)]

end Search
end Tcheran
