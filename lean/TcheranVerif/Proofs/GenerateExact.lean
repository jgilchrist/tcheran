import TcheranVerif.Proofs.EnPassant
import TcheranVerif.Proofs.Castling
/-!
# `generate_exact`: the generated moves are exactly the rules' legal moves (C01)

`stages_exact` puts the per-class theorems together for any check mask satisfying `MaskSpec`; `generate_run`
says what the two calls return in terms of the same stage lists (`Run`). Double check needs no analysis of its own: the
empty mask satisfies `MaskSpec` (`maskSpec_zero`), and with it every stage but the king's is empty
(`stages_zero`).
-/

namespace Tcheran
open Board Geometry Rules

/-- what a legal position provides (`posH_of_legal`, `Proofs/GameInv.lean`) -/
structure PosH (g : Game) (k : Sq) : Prop where
  ctx : Ctx g.board g.player k
  ep : EpOk g.board.squares g.player g.ep
  ksRight : (g.rights.forP g.player).kingSide = true →
    k = Game.kingStart g.player ∧ at' g.board.squares (Game.kingsideRookStart g.player) = some ⟨.rook, g.player⟩
  qsRight : (g.rights.forP g.player).queenSide = true →
    k = Game.kingStart g.player ∧ at' g.board.squares (Game.queensideRookStart g.player) = some ⟨.rook, g.player⟩

theorem castles_spec (T : SliderTables) (g : Game) (k : Sq) (h : PosH g k) (m : Move) :
    (m ∈ (if attackersOf g.board g.player k == 0#64 then Gen.castles g g.board.occupancy else [])) ↔
    (m ∈ castleMoves (ofGame g) ∧ inCheck (applyBoard g.board.squares g.player m) g.player = false) := by
  rw [castleMoves_eq]
  unfold Gen.castles Gen.castleFor
  rw [mem_if_append]
  have hk := h.ksRight
  have hq := h.qsRight
  have hctx := h.ctx
  show _ ↔ (m ∈ (match g.player with
    | .white => _
    | .black => _) ∧ _)
  generalize g.player = p at *
  -- `castleGeom` computes only for a given colour; then every square of `castle_one` can be read off the goal
  cases p <;> simp only [List.mem_append] <;>
    exact (or_congr
      (castle_one T hctx (by decide) (mem_bb2 _ _) (by decide) hk m)
      (castle_one T hctx (by decide) (mem_bb3 _ _ _) (by decide) hq m)).trans
      or_and_right.symm

/-- the sixteen stages in the generator's order against the twelve classes of `legal_classes` -/
theorem stages_regroup {p1 p2 p3 p4 c5 c6 c7 c8 p9 p10 p11 q12 q13 q14 q15 z : Prop} :
    ((p1 ∨ p2 ∨ p3 ∨ p4 ∨ c5 ∨ c6 ∨ c7 ∨ c8) ∨ (p9 ∨ p10 ∨ p11 ∨ q12 ∨ q13 ∨ q14 ∨ q15 ∨ z)) ↔
      (p1 ∨ p2 ∨ p3 ∨ p4 ∨ p9 ∨ p10 ∨ p11 ∨ (c5 ∨ q12) ∨ (c6 ∨ q13) ∨ (c7 ∨ q14) ∨ (c8 ∨ q15) ∨ z) := by
  constructor
  · rintro ((a | a | a | a | a | a | a | a) | (a | a | a | a | a | a | a | a)) <;> simp only [a, true_or, or_true]
  · rintro (a | a | a | a | a | a | a | (a | a) | (a | a) | (a | a) | (a | a) | a) <;>
      simp only [a, true_or, or_true]

theorem stages_exact (T : SliderTables) (g : Game) (k : Sq) (h : PosH g k) (cm op dp : BB)
    (ms : MaskSpec g.board g.player k cm op dp) (ep : List Move)
    (hep : ∀ m, m ∈ ep ↔ REp g.board.squares g.player g.ep m) (m : Move) :
    m ∈ flat (capStages g k cm op dp ep) ++ flat (quietStages g k
      { checkers := attackersOf g.board g.player k, checkMask := cm, orthPins := op, diagPins := dp }) ↔
    m ∈ legalMoves (ofGame g) := by
  rw [legal_classes, ← promoCaptures_exact h.ctx ms, ← promoPushes_exact h.ctx ms [.queen],
    ← plainCaptures_exact h.ctx ms, ← hep, ← promoPushes_exact h.ctx ms Gen.promoOrderQuietUnder,
    ← singlePushes_exact h.ctx ms, ← doublePushes_exact h.ctx ms, ← knights_exact h.ctx ms,
    ← diagSliders_exact T h.ctx ms, ← orthSliders_exact T h.ctx ms, ← kings_exact T g k h.ctx,
    ← castles_spec T g k h m]
  simp only [flat, capStages, quietStages, List.map_cons, List.map_nil, List.flatten_cons, List.flatten_nil,
    List.mem_append, List.not_mem_nil, or_false]
  exact stages_regroup

/-- what the two calls return: sublists of the sixteen stages for masks that mean what `MaskSpec` asks, leaving
out none of their moves -/
structure Run (g : Game) (k : Sq) where
  (cm op dp : BB)
  (ep caps quiets : List Move)
  cache : MovegenCache
  spec : MaskSpec g.board g.player k cm op dp
  ep_eq : Gen.pawnEnPassant g (g.board.pawnsOf g.player) k cm op dp = some ep
  ep_spec : ∀ m, m ∈ ep ↔ REp g.board.squares g.player g.ep m
  caps_eq : generateCaptures g = some (caps, cache)
  quiets_eq : generateQuiets g cache = some quiets
  caps_sub : caps.Sublist (flat (capStages g k cm op dp ep))
  quiets_sub : quiets.Sublist (flat (quietStages g k ⟨attackersOf g.board g.player k, cm, op, dp⟩))
  all : ∀ m, m ∈ flat (capStages g k cm op dp ep) ++
    flat (quietStages g k ⟨attackersOf g.board g.player k, cm, op, dp⟩) → m ∈ caps ++ quiets

theorem Run.unique {g : Game} {k : Sq} (r : Run g k) {caps quiets : List Move} {cache : MovegenCache}
    (hcaps : generateCaptures g = some (caps, cache)) (hquiets : generateQuiets g cache = some quiets) :
    caps = r.caps ∧ quiets = r.quiets := by
  obtain ⟨rfl, rfl⟩ := Prod.mk.inj (Option.some.inj (hcaps.symm.trans r.caps_eq))
  exact ⟨rfl, Option.some.inj (hquiets.symm.trans r.quiets_eq)⟩

theorem Run.mem_iff {g : Game} {k : Sq} (r : Run g k) (T : SliderTables) (h : PosH g k) (m : Move) :
    m ∈ r.caps ++ r.quiets ↔ m ∈ legalMoves (ofGame g) :=
  have hst := stages_exact T g k h r.cm r.op r.dp r.spec r.ep r.ep_spec m
  ⟨fun hm => hst.1 ((r.caps_sub.append r.quiets_sub).subset hm), fun hl => r.all m (hst.2 hl)⟩

theorem generate_run (T : SliderTables) (g : Game) (k : Sq) (h : PosH g k) : Nonempty (Run g k) := by
  have hk := h.ctx.lsb_king
  have hcaps := generateCaptures_eq g k hk
  by_cases hn : BB.count (attackersOf g.board g.player k) > 1
  · have ms := maskSpec_zero T g.board h.ctx.cons g.player k hn
    obtain ⟨ep, hep, sep⟩ := enPassant_spec T g k h.ctx 0#64 _ _ ms h.ep
    have e0 : ep = [] := (pawnEnPassant_cases hep).resolve_right fun ⟨_, _, hne, _⟩ => hne BitVec.zero_and
    subst e0
    -- double check: the king's stages, number 8 of `capStages` and 15 of `quietStages`
    exact ⟨{ spec := ms, ep_eq := hep, ep_spec := sep, caps_eq := hcaps.trans (if_pos hn)
             quiets_eq := (generateQuiets_eq g k hk _).trans (congrArg some (if_pos hn))
             all := stages_zero g k _ _ _ fun e => by rw [(count_eq_zero_iff _).2 e] at hn; cases hn
             caps_sub := sublist_flat (n := 8) (by simp [capStages])
             quiets_sub := sublist_flat (n := 15) (by simp [quietStages]), .. }⟩
  · obtain ⟨cm, hcmeq, hcm⟩ := checkMask_spec T g.board h.ctx.cons g.player k hn
    have ms := maskSpec_of T g.board h.ctx.cons g.player k cm hcm
    obtain ⟨ep, hep, sep⟩ := enPassant_spec T g k h.ctx cm _ _ ms h.ep
    rw [if_neg hn, hcmeq] at hcaps
    exact ⟨{ spec := ms, ep_eq := hep, ep_spec := sep, caps_eq := hcaps.trans (capturesWith_eq g k _ cm ep hep)
             quiets_eq := (generateQuiets_eq g k hk _).trans (congrArg some (if_neg hn))
             caps_sub := List.Sublist.refl _, quiets_sub := List.Sublist.refl _, all := fun m hm => hm, .. }⟩

theorem generate_exact (T : SliderTables) (g : Game) (k : Sq) (h : PosH g k) :
    ∃ caps cache quiets, generateCaptures g = some (caps, cache) ∧ generateQuiets g cache = some quiets ∧
      ∀ m, m ∈ caps ++ quiets ↔ m ∈ legalMoves (ofGame g) := by
  obtain ⟨r⟩ := generate_run T g k h
  exact ⟨r.caps, r.cache, r.quiets, r.caps_eq, r.quiets_eq, r.mem_iff T h⟩

/-- 218: the slots of the engine's `MoveList` -/
theorem generateLegal_eq (g : Game) (caps quiets : List Move) (cache : MovegenCache)
    (h1 : generateCaptures g = some (caps, cache)) (h2 : generateQuiets g cache = some quiets) :
    generateLegal g = if (caps ++ quiets).length > 218 then none else some (caps ++ quiets) := by
  unfold generateLegal
  rw [h1]
  show (do let quiets ← generateQuiets g cache; _) = _
  rw [h2]
  rfl

theorem generateLegal_some (T : SliderTables) (g : Game) (k : Sq) (h : PosH g k) (ms : List Move)
    (hg : generateLegal g = some ms) : ∀ m, m ∈ ms ↔ m ∈ legalMoves (ofGame g) := by
  obtain ⟨caps, cache, quiets, h1, h2, h3⟩ := generate_exact T g k h
  rw [generateLegal_eq g caps quiets cache h1 h2] at hg
  split at hg
  · cases hg
  · cases hg
    exact h3

end Tcheran
