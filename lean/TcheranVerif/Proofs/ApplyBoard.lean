import TcheranVerif.Model.Rules
import TcheranVerif.Proofs.Board
import TcheranVerif.Proofs.ListAux
/-!
# The mailbox after a move, and where the king stands
-/

namespace Tcheran
open Board Rules

theorem at_setSq (b : RBoard) (s t : Sq) (v : Option Piece) :
    at' (setSq b s v) t = if t = s then v else at' b t :=
  getElem_set_sq b s t v

/-- the moves that `applyBoard` carries out by lifting one man and putting one down -/
def Move.Plain (m : Move) : Prop := m.flag ≠ .enPassant ∧ m.flag ≠ .castle

theorem applyBoard_piece (b : RBoard) (p : Player) (m : Move) (X : Piece) (hc : m.isCastling = false)
    (hsrc : at' b m.src = some X) (x : Sq) :
    at' (applyBoard b p m) x =
      if m.isEnPassant = true ∧ offset m.dst 0 (-(fwd p)) = some x then none
      else if x = m.dst then some (Game.placedPiece m p X) else if x = m.src then none else at' b x := by
  unfold applyBoard
  rw [hsrc]
  simp only [hc, Bool.false_eq_true, if_false]
  cases m.isEnPassant with
  | false => simp only [Bool.false_eq_true, false_and, if_false, at_setSq]; rfl
  | true =>
    cases offset m.dst 0 (-(fwd p)) with
    | none => simp only [if_true, reduceCtorEq, and_false, if_false, at_setSq]; rfl
    | some v => simp only [if_true, true_and, Option.some.injEq, at_setSq, eq_comm (a := v)]; rfl

theorem applyBoard_plain (b : RBoard) (p : Player) (m : Move) (X : Piece) (hf : m.Plain)
    (hsrc : at' b m.src = some X) (s : Sq) :
    at' (applyBoard b p m) s =
      if s = m.dst then some (Game.placedPiece m p X) else if s = m.src then none else at' b s := by
  have he : m.isEnPassant = false := by
    unfold Move.isEnPassant; simpa using hf.1
  have hcs : m.isCastling = false := by
    unfold Move.isCastling; simpa using hf.2
  rw [applyBoard_piece b p m X hcs hsrc, he, if_neg (fun h => Bool.false_ne_true h.1)]

theorem applyBoard_ep (b : RBoard) (p : Player) (m : Move) (v : Sq) (X : Piece) (he : m.isEnPassant = true)
    (hsrc : at' b m.src = some X) (hv : offset m.dst 0 (-(fwd p)) = some v) (x : Sq) :
    at' (applyBoard b p m) x =
      if x = v then none else if x = m.dst then some X else if x = m.src then none else at' b x := by
  have hf : m.flag = .enPassant := by simpa [Move.isEnPassant] using he
  rw [applyBoard_piece b p m X (by rw [Move.isCastling, hf]; rfl) hsrc, he, hv,
    show Game.placedPiece m p X = X by rw [Game.placedPiece, Move.promotion, hf]]
  simp only [true_and, Option.some.injEq, eq_comm (a := v)]

theorem applyBoard_castle (b : RBoard) (p : Player) (ks dst rf rt : Sq)
    (hk : at' b ks = some ⟨.king, p⟩) (hcs : Game.castleSquares p dst = some (rf, rt)) (x : Sq) :
    at' (applyBoard b p (Move.castles ks dst)) x =
      if x = rt then some ⟨.rook, p⟩ else if x = rf then none else
      if x = dst then some ⟨.king, p⟩ else if x = ks then none else at' b x := by
  unfold applyBoard
  show at' (match at' b ks with
    | none => b
    | some moved => _) x = _
  rw [hk]
  simp only [Move.castles, Move.promotion, Move.isEnPassant, Move.isCastling, beq_self_eq_true, if_true,
    show (MoveFlag.castle == MoveFlag.enPassant) = false from rfl, Bool.false_eq_true, if_false]
  rw [hcs]
  simp only
  rw [at_setSq, at_setSq, at_setSq, at_setSq]

theorem kingSq_unique (b : RBoard) (p : Player) (k : Sq)
    (hk : ∀ s, at' b s = some ⟨.king, p⟩ ↔ s = k) : kingSq b p = some k :=
  find?_unique (List.mem_finRange k) (beq_iff_eq.2 ((hk k).2 rfl)) fun x _ hx => (hk x).1 (beq_iff_eq.1 hx)

theorem kingSq_of_only {b : RBoard} {p : Player} {t : Sq} (ht : at' b t = some ⟨.king, p⟩)
    (h : ∀ x, x ≠ t → at' b x ≠ some ⟨.king, p⟩) : kingSq b p = some t :=
  kingSq_unique b p t fun s => ⟨fun e => Decidable.byContradiction fun hn => h s hn e, fun e => e ▸ ht⟩

theorem kingSq_stays {b b' : RBoard} {p : Player} {k : Sq} (hk : ∀ s, at' b s = some ⟨.king, p⟩ ↔ s = k)
    (h : ∀ x, at' b' x = at' b x ∨ (at' b' x ≠ some ⟨.king, p⟩ ∧ at' b x ≠ some ⟨.king, p⟩)) :
    kingSq b' p = some k := by
  apply kingSq_unique
  intro x
  rcases h x with e | ⟨h1, h2⟩
  · rw [e]; exact hk x
  · exact ⟨fun e => absurd e h1, fun e => absurd ((hk x).2 e) h2⟩

theorem inCheck_of_kingSq {b : RBoard} {p : Player} {k : Sq} (h : kingSq b p = some k) :
    inCheck b p = attacked b p.other k := by
  unfold inCheck
  rw [h]

end Tcheran
