import TcheranVerif.Proofs.PickerBasics
/-!
# The staged picker yields every generated move exactly once — the invariant

`InP env st x` : `x` is still to be yielded in state `st`. `Inv env st` : structural invariant.
Each stage block of `MovePicker::next` is either *silent* (`InP` unchanged) or *emits* one move that
is removed from `InP`; a measure decreases, and `InP` is empty at `Done`.

`Inv` is never filled in field by field, nor read field by field past `GenCaptures`. Before `GenCaptures` it says
next to nothing (`Inv.of_pre`). Afterwards it reads the move array only through `Inj`, the size and the two regions
`[0, capturesEnd)` and `[capturesEnd, size)` taken as sets (`SameRegions`), and the rest is a condition on the
cursors at the stage `X` the picker is in (`Cur X`): `Inv.build` makes an invariant from these, `Inv.to` carries one
along a step that keeps the regions, `Inv.cur` reads the cursor condition back. For the measure, a step to a stage
of lower rank pays for any work the new stage brings (`mu_lt_of_rank_lt`), so only steps inside a stage need
arithmetic.
-/

namespace Tcheran
namespace Picker

structure EnvOk (env : Env) : Prop where
  capsNodup : env.captures.Nodup
  quietsNodup : env.quiets.Nodup
  disjoint : ∀ x, x ∈ env.captures → x ∉ env.quiets

def qs (env : Env) (st : State) : List Move := if st.onlyCaptures then [] else env.quiets

def badSeg (st : State) (x : Move) : Prop :=
  match st.firstBadCapture with
  | some fb => seg st.moves fb st.capturesEnd x
  | none => False

def notHash (st : State) (x : Move) : Prop := some x ≠ st.hash

def InP (env : Env) (st : State) (x : Move) : Prop :=
  match st.stage with
  | .bestMove => x ∈ env.captures ∨ x ∈ qs env st
  | .genCaptures => (x ∈ env.captures ∨ x ∈ qs env st) ∧ notHash st x
  | .goodCaptures => (seg st.moves st.idx st.capturesEnd x ∨ x ∈ qs env st) ∧ notHash st x
  | .genQuiets => (badSeg st x ∨ x ∈ env.quiets) ∧ notHash st x
  | .killer1 => (badSeg st x ∨ seg st.moves st.firstQuiet st.moves.size x) ∧ notHash st x
  | .killer2 => (badSeg st x ∨ seg st.moves st.firstQuiet st.moves.size x) ∧ notHash st x
  | .counterMove => (badSeg st x ∨ seg st.moves st.firstQuiet st.moves.size x) ∧ notHash st x
  | .badCaptures => (seg st.moves st.idx st.capturesEnd x ∨
      (st.onlyCaptures = false ∧ seg st.moves st.firstQuiet st.moves.size x)) ∧ notHash st x
  | .scoreQuiets => seg st.moves st.firstQuiet st.moves.size x ∧ notHash st x
  | .quiets => seg st.moves st.idx st.moves.size x ∧ notHash st x
  | .done => False

def rank : Stage → Nat
  | .bestMove => 10 | .genCaptures => 9 | .goodCaptures => 8 | .genQuiets => 7 | .killer1 => 6
  | .killer2 => 5 | .counterMove => 4 | .badCaptures => 3 | .scoreQuiets => 2 | .quiets => 1 | .done => 0

def bound (env : Env) : Nat := env.captures.length + env.quiets.length + 1

def work (st : State) : Nat :=
  match st.stage with
  | .goodCaptures => st.capturesEnd - st.idx
  | .badCaptures => st.capturesEnd - st.idx
  | .quiets => st.moves.size - st.idx
  | _ => 0

def mu (env : Env) (st : State) : Nat := rank st.stage * bound env + work st

def afterCaps : Stage → Bool
  | .bestMove | .genCaptures => false
  | _ => true

def afterQuiets : Stage → Bool
  | .killer1 | .killer2 | .counterMove | .scoreQuiets | .quiets => true
  | _ => false

/-- Before `GenCaptures` only `pre` speaks. Afterwards the clauses on cursors are those of `Cur` below: read it first. -/
structure Inv (env : Env) (st : State) : Prop where
  inj : Inj st.moves
  ssize : st.scores.size = st.moves.size
  hashOk : ∀ h, st.hash = some h → (h ∈ env.captures ∨ h ∈ qs env st)
  loudHash : st.onlyCaptures = true → st.hash = none
  -- a captures-only picker skips `GenQuiets` and every stage that reads the quiets
  loudStage : st.onlyCaptures = true → afterQuiets st.stage = false ∧ st.stage ≠ .genQuiets
  pre : afterCaps st.stage = false → st.moves = #[] ∧ st.scores = #[] ∧ st.idx = 0 ∧ st.firstBadCapture = none
  caps : afterCaps st.stage = true → st.capturesEnd = env.captures.length ∧ st.capturesEnd ≤ st.moves.size ∧
      ∀ x, seg st.moves 0 st.capturesEnd x ↔ x ∈ env.captures
  -- at `GoodCaptures` and `GenQuiets` the array holds the captures alone
  noQuietsYet : afterCaps st.stage = true → afterQuiets st.stage = false → st.stage ≠ .badCaptures →
      st.stage ≠ .done → st.moves.size = st.capturesEnd ∧ st.firstQuiet = st.capturesEnd
  -- and still does at `BadCaptures` if the picker is captures-only
  loudBad : st.stage = .badCaptures → st.onlyCaptures = true → st.moves.size = st.capturesEnd
  good : st.stage = .goodCaptures → st.firstBadCapture = none ∧ st.idx ≤ st.capturesEnd
  fbOk : ∀ fb, st.firstBadCapture = some fb → fb < st.capturesEnd
  quiets : (afterQuiets st.stage = true ∨ (st.stage = .badCaptures ∧ st.onlyCaptures = false)) →
      st.capturesEnd ≤ st.firstQuiet ∧ st.firstQuiet ≤ st.moves.size ∧
      st.moves.size = env.captures.length + env.quiets.length ∧
      ∀ x, seg st.moves st.capturesEnd st.moves.size x ↔ x ∈ env.quiets
  badIdx : st.stage = .badCaptures → st.idx ≤ st.capturesEnd
  quietIdx : st.stage = .quiets → st.firstQuiet ≤ st.idx ∧ st.idx ≤ st.moves.size

structure Silent (env : Env) (st st' : State) : Prop where
  inv : Inv env st'
  same : ∀ x, InP env st' x ↔ InP env st x
  mu_le : mu env st' ≤ mu env st

structure Emit (env : Env) (st : State) (m : Move) (st' : State) : Prop where
  inv : Inv env st'
  mem : InP env st m
  rest : ∀ x, InP env st' x ↔ (InP env st x ∧ x ≠ m)
  mu_lt : mu env st' < mu env st

theorem Silent.refl {env : Env} {st : State} (h : Inv env st) : Silent env st st :=
  ⟨h, fun _ => Iff.rfl, Nat.le_refl _⟩

theorem Silent.trans {env : Env} {a b c : State} (h1 : Silent env a b) (h2 : Silent env b c) : Silent env a c :=
  ⟨h2.inv, fun x => (h2.same x).trans (h1.same x), Nat.le_trans h2.mu_le h1.mu_le⟩

theorem Silent.emit {env : Env} {a b c : State} {m : Move} (h1 : Silent env a b) (h2 : Emit env b m c) :
    Emit env a m c :=
  ⟨h2.inv, (h1.same m).1 h2.mem, fun x => by rw [h2.rest x, h1.same x], Nat.lt_of_lt_of_le h2.mu_lt h1.mu_le⟩

theorem badSeg_congr {s s' : State} (hf : s'.firstBadCapture = s.firstBadCapture)
    (hc : s'.capturesEnd = s.capturesEnd)
    (hm : ∀ lo x, seg s'.moves lo s.capturesEnd x ↔ seg s.moves lo s.capturesEnd x) (x : Move) :
    badSeg s' x ↔ badSeg s x := by
  unfold badSeg
  rw [hf, hc]
  split
  · exact hm _ x
  · exact Iff.rfl

theorem badSeg_caps {s : State} {x : Move} (h : badSeg s x) : seg s.moves 0 s.capturesEnd x := by
  unfold badSeg at h
  split at h
  · exact seg_mono (Nat.zero_le _) (Nat.le_refl _) h
  · exact h.elim

theorem Inv.of_pre {env : Env} {st : State} (hs : afterCaps st.stage = false) (hm : st.moves = #[])
    (hsc : st.scores = #[]) (hi : st.idx = 0) (hf : st.firstBadCapture = none)
    (hashOk : ∀ h, st.hash = some h → (h ∈ env.captures ∨ h ∈ qs env st))
    (loudHash : st.onlyCaptures = true → st.hash = none) : Inv env st := by
  have hst : st.stage = .bestMove ∨ st.stage = .genCaptures := by
    revert hs; cases st.stage <;> simp [afterCaps]
  exact
  { inj := fun i j hi _ _ => by simp [hm] at hi
    ssize := by rw [hm, hsc]; rfl
    hashOk := hashOk
    loudHash := loudHash
    loudStage := fun _ => by rcases hst with e | e <;> rw [e] <;> exact ⟨rfl, by simp⟩
    pre := fun _ => ⟨hm, hsc, hi, hf⟩
    caps := fun c => by rw [hs] at c; cases c
    noQuietsYet := fun c => by rw [hs] at c; cases c
    loudBad := fun c => by rw [c] at hs; cases hs
    good := fun c => by rw [c] at hs; cases hs
    fbOk := fun fb c => by rw [hf] at c; cases c
    quiets := fun c => by rcases hst with e | e <;> simp [e, afterQuiets] at c
    badIdx := fun c => by rw [c] at hs; cases hs
    quietIdx := fun c => by rw [c] at hs; cases hs }

/-- the states in which `Inv` speaks of the quiet region -/
abbrev HasQuiets (s : State) : Prop :=
  afterQuiets s.stage = true ∨ (s.stage = .badCaptures ∧ s.onlyCaptures = false)

/-- past `GenCaptures`: the cursor clauses of `Inv` at stage `X`, with nothing vacuous -/
def Cur (X : Stage) (s : State) : Prop :=
  (∀ fb, s.firstBadCapture = some fb → fb < s.capturesEnd) ∧
  match X with
  | .bestMove | .genCaptures => False
  | .goodCaptures => s.moves.size = s.capturesEnd ∧ s.firstQuiet = s.capturesEnd ∧
      s.firstBadCapture = none ∧ s.idx ≤ s.capturesEnd
  | .genQuiets => s.onlyCaptures = false ∧ s.moves.size = s.capturesEnd ∧ s.firstQuiet = s.capturesEnd
  | .killer1 | .killer2 | .counterMove | .scoreQuiets =>
      s.onlyCaptures = false ∧ s.capturesEnd ≤ s.firstQuiet ∧ s.firstQuiet ≤ s.moves.size
  | .badCaptures => s.idx ≤ s.capturesEnd ∧
      (s.onlyCaptures = true → s.moves.size = s.capturesEnd) ∧
      (s.onlyCaptures = false → s.capturesEnd ≤ s.firstQuiet ∧ s.firstQuiet ≤ s.moves.size)
  | .quiets => s.onlyCaptures = false ∧ s.capturesEnd ≤ s.firstQuiet ∧ s.firstQuiet ≤ s.idx ∧ s.idx ≤ s.moves.size
  | .done => True

theorem Inv.build {env : Env} {s : State} {X : Stage} (inj : Inj s.moves)
    (ssize : s.scores.size = s.moves.size) (hashOk : ∀ h, s.hash = some h → (h ∈ env.captures ∨ h ∈ qs env s))
    (loudHash : s.onlyCaptures = true → s.hash = none)
    (caps : s.capturesEnd = env.captures.length ∧ s.capturesEnd ≤ s.moves.size ∧
      ∀ x, seg s.moves 0 s.capturesEnd x ↔ x ∈ env.captures)
    (quiets : HasQuiets s → s.moves.size = env.captures.length + env.quiets.length ∧
      ∀ x, seg s.moves s.capturesEnd s.moves.size x ↔ x ∈ env.quiets)
    (hs : s.stage = X) (c : Cur X s) : Inv env s := by
  subst hs
  obtain ⟨fbOk, c⟩ := c
  have fq : HasQuiets s → s.capturesEnd ≤ s.firstQuiet ∧ s.firstQuiet ≤ s.moves.size := by
    unfold HasQuiets; revert c; cases s.stage <;> simp +contextual [afterQuiets] <;> omega
  refine
  { inj, ssize, hashOk, loudHash, fbOk
    caps := fun _ => caps
    quiets := fun a => ⟨(fq a).1, (fq a).2, quiets a⟩
    loudBad := fun e l => by rw [e] at c; exact c.2.1 l
    good := fun e => by rw [e] at c; exact ⟨c.2.2.1, c.2.2.2⟩
    badIdx := fun e => by rw [e] at c; exact c.1
    quietIdx := fun e => by rw [e] at c; exact ⟨c.2.2.1, c.2.2.2⟩
    loudStage := ?_
    pre := ?_
    noQuietsYet := ?_ }
  all_goals
    revert c
    cases s.stage <;> simp +contextual [afterCaps, afterQuiets]

structure SameRegions (s1 s2 : State) : Prop where
  inj : Inj s2.moves
  size : s2.moves.size = s1.moves.size
  ssize : s2.scores.size = s1.scores.size
  hash : s2.hash = s1.hash
  loud : s2.onlyCaptures = s1.onlyCaptures
  cend : s2.capturesEnd = s1.capturesEnd
  caps : ∀ x, seg s2.moves 0 s1.capturesEnd x ↔ seg s1.moves 0 s1.capturesEnd x
  quiets : ∀ x, seg s2.moves s1.capturesEnd s1.moves.size x ↔ seg s1.moves s1.capturesEnd s1.moves.size x

theorem SameRegions.refl {s : State} (h : Inj s.moves) : SameRegions s s :=
  ⟨h, rfl, rfl, rfl, rfl, rfl, fun _ => Iff.rfl, fun _ => Iff.rfl⟩

theorem SameRegions.restage {s1 s2 s3 : State} (r : SameRegions s1 s2) (hm : s3.moves = s2.moves := by rfl)
    (hsc : s3.scores.size = s2.scores.size := by rfl) (hh : s3.hash = s2.hash := by rfl)
    (hl : s3.onlyCaptures = s2.onlyCaptures := by rfl) (hc : s3.capturesEnd = s2.capturesEnd := by rfl) :
    SameRegions s1 s3 :=
  ⟨hm ▸ r.inj, by rw [hm, r.size], hsc.trans r.ssize, hh.trans r.hash, hl.trans r.loud, hc.trans r.cend,
    fun x => by rw [hm]; exact r.caps x, fun x => by rw [hm]; exact r.quiets x⟩

theorem Inv.to {env : Env} {s1 s2 : State} {X Y : Stage} (h : Inv env s1) (r : SameRegions s1 s2)
    (hs1 : s1.stage = X) (hs : s2.stage = Y) (c : Cur Y s2) (hq : HasQuiets s2 → HasQuiets s1)
    (ac : afterCaps X = true := by rfl) : Inv env s2 := by
  obtain ⟨c1, c2, c3⟩ := h.caps (hs1 ▸ ac)
  refine Inv.build r.inj (by rw [r.ssize, r.size]; exact h.ssize) (fun x e => ?_)
    (fun e => by rw [r.hash]; exact h.loudHash (r.loud ▸ e)) ?_ (fun a => ?_) hs c
  · have := h.hashOk x (r.hash ▸ e)
    unfold qs at *; rw [r.loud]; exact this
  · rw [r.cend, r.size]
    exact ⟨c1, c2, fun x => (r.caps x).trans (c3 x)⟩
  · obtain ⟨_, _, q3, q4⟩ := h.quiets (hq a)
    rw [r.cend, r.size]
    exact ⟨q3, fun x => (r.quiets x).trans (q4 x)⟩

theorem Inv.cur {env : Env} {st : State} {X : Stage} (h : Inv env st) (hs : st.stage = X)
    (ac : afterCaps X = true := by rfl) : Cur X st := by
  subst hs
  have fq : _ → st.capturesEnd ≤ st.firstQuiet ∧ st.firstQuiet ≤ st.moves.size :=
    fun a => ⟨(h.quiets a).1, (h.quiets a).2.1⟩
  obtain ⟨_, _, _, _, ls, _, _, nq, lb, g, fbOk, _, bi, qi⟩ := h
  refine ⟨fbOk, ?_⟩
  revert ac ls nq lb g fq bi qi
  cases st.stage <;> simp +contextual [afterCaps, afterQuiets]

/-! `Inv` reads the environment only through its two lists, so the scoring functions, killers and counter move may
change between two calls. -/

theorem envOk_iff_nodup {env : Env} : EnvOk env ↔ (env.captures ++ env.quiets).Nodup := by
  rw [List.nodup_append]
  exact ⟨fun h => ⟨h.capsNodup, h.quietsNodup, fun a ha _ hb e => h.disjoint a ha (e ▸ hb)⟩,
    fun h => ⟨h.1, h.2.1, fun x hx hx' => h.2.2 x hx x hx' rfl⟩⟩

theorem inv_congr {e1 e2 : Env} {st : State} (hc : e1.captures = e2.captures) (hq : e1.quiets = e2.quiets)
    (h : Inv e1 st) : Inv e2 st := by
  have hqs : qs e2 st = qs e1 st := by unfold qs; rw [hq]
  exact { h with
    hashOk := by rw [← hc, hqs]; exact h.hashOk
    caps := by rw [← hc]; exact h.caps
    quiets := by rw [← hc, ← hq]; exact h.quiets }

theorem inP_sub {env : Env} {st : State} (h : Inv env st) (x : Move) (hx : InP env st x) :
    x ∈ env.captures ∨ x ∈ env.quiets := by
  have hqs : x ∈ qs env st → x ∈ env.quiets := by unfold qs; split <;> simp
  have hcap : afterCaps st.stage = true → ∀ lo, seg st.moves lo st.capturesEnd x → x ∈ env.captures :=
    fun ac lo a => ((h.caps ac).2.2 x).1 (seg_mono (Nat.zero_le _) (Nat.le_refl _) a)
  have hbad : afterCaps st.stage = true → badSeg st x → x ∈ env.captures :=
    fun ac a => hcap ac 0 (badSeg_caps a)
  have hq : HasQuiets st → ∀ lo, st.firstQuiet ≤ lo → seg st.moves lo st.moves.size x → x ∈ env.quiets :=
    fun c lo l a =>
      ((h.quiets c).2.2.2 x).1 (seg_mono (Nat.le_trans (h.quiets c).1 l) (Nat.le_refl _) a)
  unfold InP at hx
  split at hx
  · exact hx.imp_right hqs
  · exact hx.1.imp_right hqs
  · next hs => exact hx.1.imp (hcap (by rw [hs]; rfl) _) hqs
  · next hs => exact hx.1.imp_left (hbad (by rw [hs]; rfl))
  · next hs => exact hx.1.imp (hbad (by rw [hs]; rfl)) (hq (Or.inl (by rw [hs]; rfl)) _ (Nat.le_refl _))
  · next hs => exact hx.1.imp (hbad (by rw [hs]; rfl)) (hq (Or.inl (by rw [hs]; rfl)) _ (Nat.le_refl _))
  · next hs => exact hx.1.imp (hbad (by rw [hs]; rfl)) (hq (Or.inl (by rw [hs]; rfl)) _ (Nat.le_refl _))
  · next hs => exact hx.1.imp (hcap (by rw [hs]; rfl) _) (fun a => hq (Or.inr ⟨hs, a.1⟩) _ (Nat.le_refl _) a.2)
  · next hs => exact Or.inr (hq (Or.inl (by rw [hs]; rfl)) _ (Nat.le_refl _) hx.1)
  · next hs => exact Or.inr (hq (Or.inl (by rw [hs]; rfl)) _ (h.quietIdx hs).1 hx.1)
  · exact hx.elim

theorem nb_regions {limit : Nat} {st st' : State} {r} (h : NBSpec limit st r st')
    (hreg : limit ≤ st.capturesEnd ∨ (st.capturesEnd ≤ st.idx ∧ limit ≤ st.moves.size)) : SameRegions st st' :=
  have hle : st.idx ≤ limit := Nat.le_trans h.idx_ge h.idx_le
  ⟨h.inj, h.size, h.ssize, h.hash, h.loud, h.cend,
    seg_rearranged hle h.outside h.segs (hreg.imp (fun c => ⟨Nat.zero_le _, c⟩) fun c => Or.inl c.1),
    seg_rearranged hle h.outside h.segs (hreg.symm.imp id Or.inr)⟩

theorem prom_regions {t : Move} {st st' : State} {r} (h : PromSpec t st r st')
    (h1 : st.capturesEnd ≤ st.firstQuiet) (h2 : st.firstQuiet ≤ st.moves.size) : SameRegions st st' :=
  have hout : ∀ k, k < st.firstQuiet ∨ st.moves.size ≤ k → st'.moves[k]? = st.moves[k]? := fun k c =>
    c.elim (h.below k) fun c => by rw [Array.getElem?_eq_none (h.size ▸ c), Array.getElem?_eq_none c]
  ⟨h.inj, h.size, by rw [h.scores], h.hash, h.loud, h.cend,
    seg_rearranged h2 hout h.segs (Or.inr (Or.inl h1)),
    seg_rearranged h2 hout h.segs (Or.inl ⟨h1, Nat.le_refl _⟩)⟩

theorem rank_inj : ∀ a b : Stage, rank a = rank b → a = b := by
  intro a b; cases a <;> cases b <;> simp [rank]

theorem rank_le_ten (s : Stage) : rank s ≤ 10 := by cases s <;> simp [rank]

theorem work_lt_bound (env : Env) (st : State) (h : st.moves.size ≤ env.captures.length + env.quiets.length)
    (hc : st.capturesEnd ≤ st.moves.size) : work st < bound env := by
  unfold work bound
  split <;> omega

/-- not an instance of `work_lt_bound`: before `GenCaptures` `Inv` does not bound `capturesEnd`, at `Done` not the
size of the array -/
theorem Inv.work_lt {env : Env} {st : State} (h : Inv env st) : work st < bound env := by
  unfold work bound
  split
  · next hs => have := (h.caps (by rw [hs]; rfl)).1; omega
  · next hs => have := (h.caps (by rw [hs]; rfl)).1; omega
  · next hs => have := (h.quiets (Or.inl (by rw [hs]; rfl))).2.2.1; omega
  · omega

theorem mu_lt_of_rank_lt {env : Env} {s s' : State} (h' : Inv env s') (hr : rank s'.stage < rank s.stage) :
    mu env s' < mu env s := by
  unfold mu
  have := Inv.work_lt h'
  have : (rank s'.stage + 1) * bound env ≤ rank s.stage * bound env := Nat.mul_le_mul_right _ hr
  rw [Nat.add_mul] at this
  omega

end Picker
end Tcheran
