import TcheranVerif.Proofs.Magic
import TcheranVerif.Gen.MagicCert
/-!
# The magic table against a certificate (C07, kernel only)

`cert i` reads slot `i` of `Gen/MagicCert.lean`, an **untrusted** copy of what the attack table should hold,
regenerated from `/repo`'s magics on every run. `certOne` is the finite fact the kernel decides per
square (`Proofs/Sweep.lean`): the carry-rippler enumerates every subset of the mask, and every write of
the table initialisation lands inside the table on a slot for which the certificate has exactly the
value written. `applyWrites_cert` turns these facts into a statement about the table the initialisation
builds, whatever the order of the writes and however the squares share slots.
-/

namespace Tcheran

def cert (i : Nat) : BB :=
  (Gen.certChunks.getD (i / Gen.certChunkSize) []).getD (i % Gen.certChunkSize) 0#64

def certOne (mask : BB) (index : BB → Nat) (gen : BB → BB) : Bool :=
  (subsetsOf mask == depositList mask) &&
  (subsetsOf mask).all fun b => decide (index b < Gen.tableSize) && (cert (index b) == gen b)

theorem applyWrites_size (ws : List (Nat × BB)) : ∀ t : Array BB, (applyWrites t ws).size = t.size := by
  induction ws with
  | nil => intro t; rfl
  | cons w ws ih =>
    intro t
    show (applyWrites (t.setIfInBounds w.1 w.2) ws).size = t.size
    rw [ih, Array.size_setIfInBounds]

theorem applyWrites_cert (ws : List (Nat × BB)) (i : Nat) :
    ∀ t : Array BB, (∀ w ∈ ws, w.1 < t.size ∧ cert w.1 = w.2) →
      (t.getD i 0#64 = cert i ∨ i ∈ ws.map (·.1)) → (applyWrites t ws).getD i 0#64 = cert i := by
  induction ws with
  | nil => exact fun t _ hi => hi.resolve_right List.not_mem_nil
  | cons w ws ih =>
    intro t hws hi
    obtain ⟨hlt, hc⟩ := hws w List.mem_cons_self
    refine ih (t.setIfInBounds w.1 w.2) (fun w' hw' => ?_) ?_
    · rw [Array.size_setIfInBounds]
      exact hws w' (List.mem_cons_of_mem _ hw')
    rw [Array.getD_eq_getD_getElem?, Array.getElem?_setIfInBounds]
    by_cases hij : w.1 = i
    · rw [if_pos hij, if_pos hlt, ← hij, hc]
      exact Or.inl rfl
    · rw [if_neg hij, ← Array.getD_eq_getD_getElem?]
      exact hi.imp_right fun h => (List.mem_cons.1 h).resolve_left (Ne.symm hij)

theorem certOne_facts {mask : BB} {index : BB → Nat} {gen : BB → BB} (h : certOne mask index gen = true) :
    (∀ occ : BB, (occ &&& mask) ∈ subsetsOf mask) ∧
    ∀ b ∈ subsetsOf mask, index b < Gen.tableSize ∧ cert (index b) = gen b := by
  unfold certOne at h
  rw [Bool.and_eq_true] at h
  have hl : subsetsOf mask = depositList mask := eq_of_beq h.1
  refine ⟨fun occ => by rw [hl]; exact mem_depositList mask occ, fun b hb => ?_⟩
  have := (List.all_eq_true.1 h.2) b hb
  rw [Bool.and_eq_true] at this
  exact ⟨of_decide_eq_true this.1, eq_of_beq this.2⟩

/-- the writes of one slider kind, in the shape of `rookWrites` and `bishopWrites` -/
theorem writes_cert {mask : Sq → BB} {index : Sq → BB → Nat} {gen : Sq → BB → BB}
    (h : ∀ s : Sq, certOne (mask s) (index s) (gen s) = true) :
    (∀ w ∈ (List.finRange 64).flatMap fun s => (subsetsOf (mask s)).map fun b => (index s b, gen s b),
      w.1 < Gen.tableSize ∧ cert w.1 = w.2) ∧
    ∀ (s : Sq) (occ : BB), (index s (occ &&& mask s), gen s (occ &&& mask s)) ∈
      (List.finRange 64).flatMap fun s => (subsetsOf (mask s)).map fun b => (index s b, gen s b) := by
  refine ⟨fun w hw => ?_, fun s occ => ?_⟩
  · obtain ⟨s, _, hw⟩ := List.mem_flatMap.1 hw
    obtain ⟨b, hb, e⟩ := List.mem_map.1 hw
    subst e
    exact (certOne_facts (h s)).2 b hb
  · exact List.mem_flatMap.2 ⟨s, List.mem_finRange s, List.mem_map.2 ⟨_, (certOne_facts (h s)).1 occ, rfl⟩⟩

theorem table_of_cert
    (hR : ∀ s : Sq, certOne (rookMask s) (rookIndex s) (genRookAttacks s) = true)
    (hB : ∀ s : Sq, certOne (bishopMask s) (bishopIndex s) (genBishopAttacks s) = true) :
    (∀ (s : Sq) (occ : BB), rookIndex s (occ &&& rookMask s) < Gen.tableSize ∧
      attackTable.getD (rookIndex s (occ &&& rookMask s)) 0#64 = genRookAttacks s (occ &&& rookMask s)) ∧
    (∀ (s : Sq) (occ : BB), bishopIndex s (occ &&& bishopMask s) < Gen.tableSize ∧
      attackTable.getD (bishopIndex s (occ &&& bishopMask s)) 0#64 = genBishopAttacks s (occ &&& bishopMask s)) := by
  obtain ⟨hrw, hrm⟩ : (∀ w ∈ rookWrites, _) ∧ ∀ s occ, _ ∈ rookWrites := writes_cert hR
  obtain ⟨hbw, hbm⟩ : (∀ w ∈ bishopWrites, _) ∧ ∀ s occ, _ ∈ bishopWrites := writes_cert hB
  have hmem : ∀ w, w ∈ allWrites ↔ w ∈ rookWrites ∨ w ∈ bishopWrites := fun w => by
    unfold allWrites; split <;> simp only [List.mem_append, or_comm]
  have look : ∀ w ∈ allWrites, w.1 < Gen.tableSize ∧ attackTable.getD w.1 0#64 = w.2 := fun w hw => by
    have hall : ∀ w ∈ allWrites, w.1 < Gen.tableSize ∧ cert w.1 = w.2 := fun w hw =>
      ((hmem w).1 hw).elim (hrw w) (hbw w)
    refine ⟨(hall w hw).1, ?_⟩
    rw [← (hall w hw).2]
    unfold attackTable
    exact applyWrites_cert allWrites w.1 _ (fun w hw => by rw [Array.size_replicate]; exact hall w hw)
      (Or.inr (List.mem_map.2 ⟨w, hw, rfl⟩))
  exact ⟨fun s occ => look _ ((hmem _).2 (Or.inl (hrm s occ))), fun s occ => look _ ((hmem _).2 (Or.inr (hbm s occ)))⟩

end Tcheran
