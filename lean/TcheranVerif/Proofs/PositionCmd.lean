import TcheranVerif.Model.PositionCmd
import TcheranVerif.Proofs.GameInv
/-!
# The `position` command replays a legal game move for move (C17)

Among the legal moves of a position, (source, destination, promotion) determines the move (`legal_key_inj`).
Hence `expect_matching` finds exactly the move meant (`applyText_legal`), and with C01 (`generate_exact`) and C02
(`make_move_legal_total`, `ginv_apply`) the whole command is the rules' replay (`position_replays`).
-/

namespace Tcheran
open Board Game Rules UciMove

theorem applyText_legal (T : SliderTables) (g : Game) (h : Search.SInv g) (m : Move)
    (hl : m ∈ legalMoves (ofGame g)) (hfit : (generateLegal g).isSome = true) :
    applyText g (keyOf m) = makeMove theCfg g m := by
  obtain ⟨k, hk⟩ := posH_of_ginv g h.1 h.2
  obtain ⟨l, hgl⟩ : ∃ l, generateLegal g = some l := Option.isSome_iff_exists.1 hfit
  have hmem := generateLegal_some T g k hk l hgl
  unfold applyText
  rw [hgl]
  simp only [Option.bind_eq_bind, Option.bind_some]
  rw [find?_unique (a := m) ((hmem m).2 hl)]
  · rfl
  · simp [keyOf]
  · intro x hx hpx
    have hpx := of_decide_eq_true hpx
    exact legal_key_inj (ofGame g) x m ((hmem x).1 hx) hl hpx.1 hpx.2.1 hpx.2.2

/-- `hfit`: the 218-slot move list is not exceeded at any position of the game, so that `generateLegal`
answers.  It is indexed by the prefixes of the move list, for which `along_game` has no place: this is the one
statement along a game with an induction of its own. -/
theorem position_replays (T : SliderTables) : ∀ (ms : List Move) (g : Game) (pos' : Pos), Search.SInv g →
    LegalPath (ofGame g) ms pos' →
    (∀ k gk, makeMoves theCfg g (ms.take k) = some gk → (generateLegal gk).isSome = true) →
    ∃ g', positionCmd g (ms.map keyOf) = some g' ∧ makeMoves theCfg g ms = some g' ∧ ofGame g' = pos' ∧ Search.SInv g' := by
  intro ms
  induction ms with
  | nil =>
    intro g pos' h hp _
    cases hp
    exact ⟨g, rfl, rfl, rfl, h⟩
  | cons m ms ih =>
    intro g pos' h hp hfit
    cases hp with
    | cons _ _ _ _ hl hrest =>
      obtain ⟨g1, hg1⟩ := Search.make_total_legal g m h hl
      obtain ⟨h1, hof⟩ := Search.sinv_make g g1 m h hl hg1
      have hat := applyText_legal T g h m hl (hfit 0 g rfl)
      rw [← hof] at hrest
      obtain ⟨g', r1, r2, r3, r4⟩ := ih g1 pos' h1 hrest (fun k gk hk => hfit (k + 1) gk (by
        show (makeMove theCfg g m).bind _ = some gk
        rw [hg1]; exact hk))
      refine ⟨g', ?_, ?_, r3, r4⟩
      · show (applyText g (keyOf m)).bind _ = some g'
        rw [hat, hg1]; exact r1
      · show (makeMove theCfg g m).bind _ = some g'
        rw [hg1]; exact r2

end Tcheran
