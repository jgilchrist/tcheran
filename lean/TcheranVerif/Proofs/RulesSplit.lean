import TcheranVerif.Proofs.AttackSpec
import TcheranVerif.Proofs.ApplyBoard
/-!
# The rules' legal moves, list by list and class by class (C01)

`legal_classes`: the legal moves as twelve classes of the form `Class`: the moves `E s t` for the pairs of
squares satisfying a pseudo-legality condition `Pre`, as far as they do not leave the king attacked. The
generator's stages are proved to list these classes (`stage_exact`); the pawn classes are therefore stated in the
generator's vocabulary (`Sq.forward`, the rank masks), and the bridge to the rules' vocabulary (`offset`,
`Sq.rank`) is crossed here, in `pawn_class`.
-/

namespace Tcheran
open Board Geometry Rules

theorem qp_src (s t : Sq) (pr : Promo) : (Move.quietPromotion s t pr).src = s := by cases pr <;> rfl
theorem qp_dst (s t : Sq) (pr : Promo) : (Move.quietPromotion s t pr).dst = t := by cases pr <;> rfl
theorem cp_src (s t : Sq) (pr : Promo) : (Move.capturePromotion s t pr).src = s := by cases pr <;> rfl
theorem cp_dst (s t : Sq) (pr : Promo) : (Move.capturePromotion s t pr).dst = t := by cases pr <;> rfl

theorem plain_quiet (s t : Sq) : (Move.quiet s t).Plain := ⟨by simp [Move.quiet], by simp [Move.quiet]⟩
theorem plain_capture (s t : Sq) : (Move.capture s t).Plain := ⟨by simp [Move.capture], by simp [Move.capture]⟩
theorem qp_plain (s t : Sq) (pr : Promo) : (Move.quietPromotion s t pr).Plain := by
  cases pr <;> exact ⟨by simp [Move.quietPromotion], by simp [Move.quietPromotion]⟩
theorem cp_plain (s t : Sq) (pr : Promo) : (Move.capturePromotion s t pr).Plain := by
  cases pr <;> exact ⟨by simp [Move.capturePromotion], by simp [Move.capturePromotion]⟩

/-- the common tail of `mem_stepMoves` and `mem_slideMoves` -/
def Lands (b : RBoard) (p : Player) (s t : Sq) (m : Move) : Prop :=
  (at' b t = none ∧ m = Move.quiet s t) ∨ (∃ pc, at' b t = some pc ∧ pc.player ≠ p ∧ m = Move.capture s t)

def Landable (sq : RBoard) (p : Player) (t : Sq) : Prop :=
  at' sq t = none ∨ ∃ pc, at' sq t = some pc ∧ pc.player ≠ p

theorem Lands.plain {b : RBoard} {p : Player} {s t : Sq} {m : Move} (h : Lands b p s t m) :
    m.src = s ∧ m.dst = t ∧ m.Plain ∧ Landable b p t := by
  rcases h with ⟨he, e⟩ | ⟨pc, hpc, hp, e⟩ <;> subst e
  · exact ⟨rfl, rfl, plain_quiet s t, Or.inl he⟩
  · exact ⟨rfl, rfl, plain_capture s t, Or.inr ⟨pc, hpc, hp⟩⟩

theorem mem_stepMoves (b : RBoard) (p : Player) (src : Sq) (deltas : List (Int × Int)) (m : Move) :
    m ∈ stepMoves b p src deltas ↔ ∃ d ∈ deltas, ∃ t, offset src d.1 d.2 = some t ∧ Lands b p src t m := by
  unfold stepMoves Lands
  rw [List.mem_filterMap]
  refine exists_congr fun d => and_congr_right fun _ => ?_
  cases offset src d.1 d.2 with
  | none => simp
  | some t =>
    simp only [Option.some.injEq, exists_eq_left']
    cases ha : at' b t with
    | none => simp [eq_comm (a := m)]
    | some pc => by_cases hp : pc.player = p <;> simp [hp, eq_comm (a := m)]

theorem mem_slideMoves (b : RBoard) (p : Player) (src : Sq) (R : List Sq) (m : Move) :
    m ∈ slideMoves b p src R ↔ ∃ t ∈ seen (occOf b) R, Lands b p src t m := by
  unfold Lands
  induction R with
  | nil => simp [slideMoves, seen]
  | cons t ts ih =>
    unfold slideMoves seen
    cases ht : at' b t with
    | none => simp [occOf, ht, ih]
    | some pc => by_cases hp : pc.player = p <;> simp [occOf, ht, hp]

theorem mem_pawnMoves (pos : Pos) (s : Sq) (m : Move) :
    m ∈ pawnMoves pos s ↔
      ((∃ t1, offset s 0 (fwd pos.player) = some t1 ∧ at' pos.board t1 = none ∧
          ((t1.rank = promoRank pos.player ∧ ∃ pr ∈ allPromos, m = Move.quietPromotion s t1 pr) ∨
           (t1.rank ≠ promoRank pos.player ∧ m = Move.quiet s t1) ∨
           (s.rank = startRank pos.player ∧ ∃ t2, offset s 0 (2 * fwd pos.player) = some t2 ∧
              at' pos.board t2 = none ∧ m = Move.quiet s t2))) ∨
       (∃ df ∈ ([-1, 1] : List Int), ∃ t, offset s df (fwd pos.player) = some t ∧
          ((∃ pc, at' pos.board t = some pc ∧ pc.player ≠ pos.player ∧
              ((t.rank = promoRank pos.player ∧ ∃ pr ∈ allPromos, m = Move.capturePromotion s t pr) ∨
               (t.rank ≠ promoRank pos.player ∧ m = Move.capture s t))) ∨
           (at' pos.board t = none ∧ pos.ep = some t ∧ m = Move.enPassant s t)))) := by
  unfold pawnMoves
  simp only [List.mem_append, List.mem_flatMap]
  refine or_congr ?_ (exists_congr fun df => and_congr_right fun _ => ?_)
  · cases offset s 0 (fwd pos.player) with
    | none => simp
    | some t1 =>
      simp only [Option.some.injEq, exists_eq_left']
      cases he : at' pos.board t1 with
      | some x => simp
      | none =>
        simp only [Option.isSome_none, Bool.false_eq_true, if_false, List.mem_append, true_and, ← or_assoc]
        refine or_congr ?_ ?_
        · split <;> simp [List.mem_map, @eq_comm _ _ m, *]
        · split
          · cases offset s 0 (2 * fwd pos.player) with
            | none => simp [*]
            | some t2 => cases he2 : at' pos.board t2 <;> simp [*]
          · simp [*]
  · cases offset s df (fwd pos.player) with
    | none => simp
    | some t =>
      simp only [Option.some.injEq, exists_eq_left']
      cases ha : at' pos.board t with
      | none =>
        simp only [reduceCtorEq, false_and, exists_false, false_or, true_and]
        split <;> simp [*]
      | some pc =>
        simp only [Option.some.injEq, exists_eq_left', reduceCtorEq, false_and, or_false]
        split
        · split <;> simp [List.mem_map, @eq_comm _ _ m, *]
        · simp [*]

/-- the local `mk` of `Rules.castleMoves` -/
def castleMk (b : RBoard) (p : Player) (ks : Sq) (right : Bool) (rookSq : Sq) (empties path : List Sq)
    (dst : Sq) : List Move :=
  if right && (at' b ks == some ⟨.king, p⟩) && at' b rookSq == some ⟨.rook, p⟩
      && empties.all (fun s => (at' b s).isNone)
      && !(attacked b p.other ks)
      && path.all (fun s => !(attacked b p.other s)) then
    [Move.castles ks dst]
  else []

theorem mem_castleMk (b : RBoard) (p : Player) (ks : Sq) (right : Bool) (rf : Sq) (emp path : List Sq) (dst : Sq)
    (m : Move) :
    m ∈ castleMk b p ks right rf emp path dst ↔
      m = Move.castles ks dst ∧ right = true ∧ at' b ks = some ⟨.king, p⟩ ∧ at' b rf = some ⟨.rook, p⟩ ∧
      (∀ x ∈ emp, at' b x = none) ∧ attacked b p.other ks = false ∧ ∀ x ∈ path, attacked b p.other x = false := by
  unfold castleMk
  simp only [Bool.and_eq_true, beq_iff_eq, List.all_eq_true, Option.isNone_iff_eq_none, Bool.not_eq_true',
    and_assoc]
  split
  · rename_i hc
    rw [List.mem_singleton]
    exact ⟨fun e => ⟨e, hc⟩, fun h => h.1⟩
  · rename_i hc
    exact ⟨fun h => (by cases h), fun h => absurd h.2 hc⟩

theorem castleMoves_eq (pos : Pos) :
    castleMoves pos = match pos.player with
      | .white => castleMk pos.board .white E1 (pos.rights.forP .white).kingSide H1 [F1, G1] [F1, G1] G1 ++
                  castleMk pos.board .white E1 (pos.rights.forP .white).queenSide A1 [B1, C1, D1] [D1, C1] C1
      | .black => castleMk pos.board .black E8 (pos.rights.forP .black).kingSide H8 [F8, G8] [F8, G8] G8 ++
                  castleMk pos.board .black E8 (pos.rights.forP .black).queenSide A8 [B8, C8, D8] [D8, C8] C8 := by
  unfold castleMoves castleMk
  cases h : pos.player <;> rfl

theorem mem_pseudoMoves (pos : Pos) (m : Move) :
    m ∈ pseudoMoves pos ↔
      ((∃ s pc, at' pos.board s = some pc ∧ pc.player = pos.player ∧ m ∈ pieceMoves pos s pc) ∨
        m ∈ castleMoves pos) := by
  unfold pseudoMoves
  rw [List.mem_append, List.mem_flatMap]
  simp only [List.mem_finRange, true_and]
  refine or_congr_left (exists_congr fun s => ?_)
  cases at' pos.board s with
  | none => simp
  | some pc => by_cases hp : pc.player = pos.player <;> simp [hp]

theorem mem_legalMoves_iff (pos : Pos) (m : Move) :
    m ∈ legalMoves pos ↔
      (((∃ s pc, at' pos.board s = some pc ∧ pc.player = pos.player ∧ m ∈ pieceMoves pos s pc) ∨
          m ∈ castleMoves pos) ∧
        inCheck (applyBoard pos.board pos.player m) pos.player = false) := by
  unfold legalMoves
  rw [List.mem_filter, mem_pseudoMoves, Bool.not_eq_true']

theorem dir_all_iff (d : Dir) : d ∈ Dir.all := dir_mem_all d

def Class (sq : RBoard) (p : Player) (Pre : Sq → Sq → Prop) (E : Sq → Sq → Move → Prop) (m : Move) : Prop :=
  ∃ s t, Pre s t ∧ E s t m ∧ inCheck (applyBoard sq p m) p = false

/-! The pseudo-legality conditions: `StepPre` mirrors `stepMoves`, `SlidePre` `slideMoves`, the others the
branches of `pawnMoves` (`R` is the generator's rank mask on the source). -/

def StepPre (sq : RBoard) (p : Player) (kind : PieceKind) (deltas : List (Int × Int)) (s t : Sq) : Prop :=
  at' sq s = some ⟨kind, p⟩ ∧ ∃ δ ∈ deltas, offset s δ.1 δ.2 = some t

def SlidePre (sq : RBoard) (p : Player) (kF : PieceKind) (F : List Dir) (s t : Sq) : Prop :=
  (at' sq s = some ⟨kF, p⟩ ∨ at' sq s = some ⟨.queen, p⟩) ∧ ∃ dir ∈ F, t ∈ seen (occOf sq) (ray dir s)

def PushPre (sq : RBoard) (p : Player) (R : BB) (s t : Sq) : Prop :=
  at' sq s = some ⟨.pawn, p⟩ ∧ s.forward p = some t ∧ at' sq t = none ∧ mem R s = true

def DoublePre (sq : RBoard) (p : Player) (s t : Sq) : Prop :=
  at' sq s = some ⟨.pawn, p⟩ ∧ s.rank = startRank p ∧ ∃ f1, s.forward p = some f1 ∧ f1.forward p = some t ∧
    at' sq f1 = none ∧ at' sq t = none

def CapPre (sq : RBoard) (p : Player) (R : BB) (s t : Sq) : Prop :=
  at' sq s = some ⟨.pawn, p⟩ ∧ (∃ df ∈ ([-1, 1] : List Int), offset s df (fwd p) = some t) ∧
    (∃ pc, at' sq t = some pc ∧ pc.player ≠ p) ∧ mem R s = true

def RStep (sq : RBoard) (p : Player) (kind : PieceKind) (deltas : List (Int × Int)) (m : Move) : Prop :=
  Class sq p (StepPre sq p kind deltas) (Lands sq p) m

def RSlide (sq : RBoard) (p : Player) (kF : PieceKind) (F : List Dir) (m : Move) : Prop :=
  Class sq p (SlidePre sq p kF F) (Lands sq p) m

def RPromoPush (sq : RBoard) (p : Player) (which : List Promo) (m : Move) : Prop :=
  Class sq p (PushPre sq p (Game.pawnBackRank p.other)) (fun s t m => m ∈ which.map (Move.quietPromotion s t)) m

def RSingle (sq : RBoard) (p : Player) (m : Move) : Prop :=
  Class sq p (PushPre sq p (~~~Game.pawnBackRank p.other)) (fun s t m => m ∈ [Move.quiet s t]) m

def RDouble (sq : RBoard) (p : Player) (m : Move) : Prop :=
  Class sq p (DoublePre sq p) (fun s t m => m ∈ [Move.quiet s t]) m

def RPromoCap (sq : RBoard) (p : Player) (m : Move) : Prop :=
  Class sq p (CapPre sq p (Game.pawnBackRank p.other))
    (fun s t m => m ∈ Gen.promoOrderCaptures.map (Move.capturePromotion s t)) m

def RPlainCap (sq : RBoard) (p : Player) (m : Move) : Prop :=
  Class sq p (CapPre sq p (~~~Game.pawnBackRank p.other)) (fun s t m => m ∈ [Move.capture s t]) m

/-- not a `Class`: the engine tries an e.p. capture out on a scratch board, there is no guard that legality
could be compared with (`enPassant_spec`) -/
def REp (sq : RBoard) (p : Player) (ep : Option Sq) (m : Move) : Prop :=
  ∃ s df t, at' sq s = some ⟨.pawn, p⟩ ∧ df ∈ ([-1, 1] : List Int) ∧ offset s df (fwd p) = some t ∧
    at' sq t = none ∧ ep = some t ∧ m = Move.enPassant s t ∧ inCheck (applyBoard sq p m) p = false

theorem rStep_iff (sq : RBoard) (p : Player) (kind : PieceKind) (deltas : List (Int × Int)) (m : Move) :
    RStep sq p kind deltas m ↔ ∃ s, at' sq s = some ⟨kind, p⟩ ∧ m ∈ stepMoves sq p s deltas ∧
      inCheck (applyBoard sq p m) p = false := by
  simp only [mem_stepMoves]
  constructor
  · rintro ⟨s, t, ⟨hs, δ, hδ, ho⟩, hm, hl⟩; exact ⟨s, hs, ⟨δ, hδ, t, ho, hm⟩, hl⟩
  · rintro ⟨s, hs, ⟨δ, hδ, t, ho, hm⟩, hl⟩; exact ⟨s, t, ⟨hs, δ, hδ, ho⟩, hm, hl⟩

theorem rSlide_iff (sq : RBoard) (p : Player) (kF : PieceKind) (F : List Dir) (m : Move) :
    RSlide sq p kF F m ↔ ∃ s, (at' sq s = some ⟨kF, p⟩ ∨ at' sq s = some ⟨.queen, p⟩) ∧
      ∃ dir ∈ F, m ∈ slideMoves sq p s (ray dir s) ∧ inCheck (applyBoard sq p m) p = false := by
  simp only [mem_slideMoves]
  constructor
  · rintro ⟨s, t, ⟨hs, dir, hdir, hseen⟩, hm, hl⟩; exact ⟨s, hs, dir, hdir, ⟨t, hseen, hm⟩, hl⟩
  · rintro ⟨s, hs, dir, hdir, ⟨t, hseen, hm⟩, hl⟩; exact ⟨s, t, ⟨hs, dir, hdir, hseen⟩, hm, hl⟩

theorem pawnHome_eq (p : Player) : Game.pawnBackRank p = pawnHome p := by cases p <;> rfl
theorem pawnDouble_eq (p : Player) : Game.pawnDoublePushRank p = pawnDouble p := by cases p <;> rfl

theorem double_iff_offset {s f1 : Sq} (t : Sq) {p : Player} (hf : s.forward p = some f1) :
    f1.forward p = some t ↔ offset s 0 (2 * fwd p) = some t := by
  rw [← Geo.double_eq_offset, hf]; rfl

theorem push_promo_rank {s t : Sq} {p : Player} (hf : s.forward p = some t) :
    mem (Game.pawnBackRank p.other) s = true ↔ t.rank = promoRank p := by
  rw [pawnHome_eq, Geo.home_other_iff]
  have := Geo.forward_eq_some.1 hf
  omega

theorem capture_promo_rank {s t : Sq} {p : Player} {df : Int} (ho : offset s df (fwd p) = some t) :
    mem (Game.pawnBackRank p.other) s = true ↔ t.rank = promoRank p := by
  rw [pawnHome_eq, Geo.home_other_iff]
  rw [offset, Sq.mk?_eq_some] at ho
  omega

theorem promo_piece_ne_king (pr : Promo) : pr.piece ≠ .king := by cases pr <;> simp [Promo.piece]

theorem promo_split (pr : Promo) : pr ∈ allPromos ↔ (pr ∈ [Promo.queen] ∨ pr ∈ Gen.promoOrderQuietUnder) := by
  cases pr <;> simp [allPromos, Gen.promoOrderQuietUnder]

theorem mem_allPromos (pr : Promo) : pr ∈ allPromos := by cases pr <;> simp [allPromos]
theorem mem_promoOrderCaptures (pr : Promo) : pr ∈ Gen.promoOrderCaptures := by
  cases pr <;> simp [Gen.promoOrderCaptures]

/-- the seven pawn classes in the order of their stages (1–4 of `capStages`, 9–11 of `quietStages`), as
`stages_regroup` expects them -/
theorem pawn_class (pos : Pos) (m : Move) :
    ((∃ s, at' pos.board s = some ⟨.pawn, pos.player⟩ ∧ m ∈ pawnMoves pos s) ∧
        inCheck (applyBoard pos.board pos.player m) pos.player = false) ↔
      (RPromoCap pos.board pos.player m ∨ RPromoPush pos.board pos.player [.queen] m ∨
       RPlainCap pos.board pos.player m ∨ REp pos.board pos.player pos.ep m ∨
       RPromoPush pos.board pos.player Gen.promoOrderQuietUnder m ∨ RSingle pos.board pos.player m ∨
       RDouble pos.board pos.player m) := by
  constructor
  · rintro ⟨⟨s, hs, hm⟩, hl⟩
    rcases (mem_pawnMoves pos s m).1 hm with ⟨t1, ho, he, h⟩ | ⟨df, hdf, t, ho, h⟩
    · have hf := (Geo.forward_eq_offset s _).trans ho
      have hR := push_promo_rank hf
      rcases h with ⟨hr, pr, hpr, e⟩ | ⟨hr, e⟩ | ⟨hsr, t2, ho2, he2, e⟩
      · rcases (promo_split pr).1 hpr with h1 | h1
        · exact Or.inr (Or.inl ⟨s, t1, ⟨hs, hf, he, hR.2 hr⟩, List.mem_map.2 ⟨pr, h1, e.symm⟩, hl⟩)
        · exact Or.inr (Or.inr (Or.inr (Or.inr (Or.inl
            ⟨s, t1, ⟨hs, hf, he, hR.2 hr⟩, List.mem_map.2 ⟨pr, h1, e.symm⟩, hl⟩))))
      · exact Or.inr (Or.inr (Or.inr (Or.inr (Or.inr (Or.inl
          ⟨s, t1, ⟨hs, hf, he, (mem_not_iff hR).2 hr⟩, List.mem_singleton.2 e, hl⟩)))))
      · exact Or.inr (Or.inr (Or.inr (Or.inr (Or.inr (Or.inr
          ⟨s, t2, ⟨hs, hsr, t1, hf, (double_iff_offset t2 hf).2 ho2, he, he2⟩, List.mem_singleton.2 e, hl⟩)))))
    · have hR := capture_promo_rank ho
      rcases h with ⟨pc, ha, hp, ⟨hr, pr, _, e⟩ | ⟨hr, e⟩⟩ | ⟨ha, hep, e⟩
      · exact Or.inl ⟨s, t, ⟨hs, ⟨df, hdf, ho⟩, ⟨pc, ha, hp⟩, hR.2 hr⟩,
          List.mem_map.2 ⟨pr, mem_promoOrderCaptures pr, e.symm⟩, hl⟩
      · exact Or.inr (Or.inr (Or.inl
          ⟨s, t, ⟨hs, ⟨df, hdf, ho⟩, ⟨pc, ha, hp⟩, (mem_not_iff hR).2 hr⟩, List.mem_singleton.2 e, hl⟩))
      · exact Or.inr (Or.inr (Or.inr (Or.inl ⟨s, df, t, hs, hdf, ho, ha, hep, e, hl⟩)))
  · rintro (⟨s, t, ⟨hs, ⟨df, hdf, ho⟩, ⟨pc, ha, hp⟩, hR⟩, hm, hl⟩ | ⟨s, t, ⟨hs, hf, he, hR⟩, hm, hl⟩ |
        ⟨s, t, ⟨hs, ⟨df, hdf, ho⟩, ⟨pc, ha, hp⟩, hR⟩, hm, hl⟩ | ⟨s, df, t, hs, hdf, ho, ha, hep, e, hl⟩ |
        ⟨s, t, ⟨hs, hf, he, hR⟩, hm, hl⟩ | ⟨s, t, ⟨hs, hf, he, hR⟩, hm, hl⟩ |
        ⟨s, t, ⟨hs, hsr, f1, hf, hf2, he1, he⟩, hm, hl⟩) <;>
      refine ⟨⟨s, hs, (mem_pawnMoves pos s m).2 ?_⟩, hl⟩
    · obtain ⟨pr, _, e⟩ := List.mem_map.1 hm
      exact Or.inr ⟨df, hdf, t, ho, Or.inl ⟨pc, ha, hp, Or.inl
        ⟨(capture_promo_rank ho).1 hR, pr, mem_allPromos pr, e.symm⟩⟩⟩
    · obtain ⟨pr, hpr, e⟩ := List.mem_map.1 hm
      exact Or.inl ⟨t, (Geo.forward_eq_offset s _).symm.trans hf, he, Or.inl
        ⟨(push_promo_rank hf).1 hR, pr, (promo_split pr).2 (Or.inl hpr), e.symm⟩⟩
    · exact Or.inr ⟨df, hdf, t, ho, Or.inl ⟨pc, ha, hp, Or.inr
        ⟨(mem_not_iff (capture_promo_rank ho)).1 hR, List.mem_singleton.1 hm⟩⟩⟩
    · exact Or.inr ⟨df, hdf, t, ho, Or.inr ⟨ha, hep, e⟩⟩
    · obtain ⟨pr, hpr, e⟩ := List.mem_map.1 hm
      exact Or.inl ⟨t, (Geo.forward_eq_offset s _).symm.trans hf, he, Or.inl
        ⟨(push_promo_rank hf).1 hR, pr, (promo_split pr).2 (Or.inr hpr), e.symm⟩⟩
    · exact Or.inl ⟨t, (Geo.forward_eq_offset s _).symm.trans hf, he, Or.inr (Or.inl
        ⟨(mem_not_iff (push_promo_rank hf)).1 hR, List.mem_singleton.1 hm⟩)⟩
    · exact Or.inl ⟨f1, (Geo.forward_eq_offset s _).symm.trans hf, he1, Or.inr (Or.inr
        ⟨hsr, t, (double_iff_offset t hf).1 hf2, he, List.mem_singleton.1 hm⟩)⟩

theorem piece_class (pos : Pos) (m : Move) :
    ((∃ s pc, at' pos.board s = some pc ∧ pc.player = pos.player ∧ m ∈ pieceMoves pos s pc) ∧
        inCheck (applyBoard pos.board pos.player m) pos.player = false) ↔
      (((∃ s, at' pos.board s = some ⟨.pawn, pos.player⟩ ∧ m ∈ pawnMoves pos s) ∧
          inCheck (applyBoard pos.board pos.player m) pos.player = false) ∨
       RStep pos.board pos.player .knight knightDeltas m ∨
       RSlide pos.board pos.player .bishop Dir.diagonal m ∨
       RSlide pos.board pos.player .rook Dir.cardinal m ∨
       RStep pos.board pos.player .king kingDeltas m) := by
  rw [rStep_iff, rStep_iff, rSlide_iff, rSlide_iff]
  constructor
  · rintro ⟨⟨s, pc, ha, hp, hm⟩, hl⟩
    obtain ⟨kk, pl⟩ := pc
    simp only at hp
    subst hp
    unfold pieceMoves at hm
    cases kk <;> simp only at hm
    · exact Or.inl ⟨⟨s, ha, hm⟩, hl⟩
    · exact Or.inr (Or.inl ⟨s, ha, hm, hl⟩)
    · obtain ⟨dir, hd, h⟩ := List.mem_flatMap.1 hm
      exact Or.inr (Or.inr (Or.inl ⟨s, Or.inl ha, dir, hd, h, hl⟩))
    · obtain ⟨dir, hd, h⟩ := List.mem_flatMap.1 hm
      exact Or.inr (Or.inr (Or.inr (Or.inl ⟨s, Or.inl ha, dir, hd, h, hl⟩)))
    · obtain ⟨dir, hd, h⟩ := List.mem_flatMap.1 hm
      rcases Geo.dir_family dir with ⟨hc, _⟩ | ⟨hdg, _⟩
      · exact Or.inr (Or.inr (Or.inr (Or.inl ⟨s, Or.inr ha, dir, hc, h, hl⟩)))
      · exact Or.inr (Or.inr (Or.inl ⟨s, Or.inr ha, dir, hdg, h, hl⟩))
    · exact Or.inr (Or.inr (Or.inr (Or.inr ⟨s, ha, hm, hl⟩)))
  · rintro (⟨⟨s, ha, hm⟩, hl⟩ | ⟨s, ha, hm, hl⟩ | ⟨s, ha | ha, dir, hd, hm, hl⟩ | ⟨s, ha | ha, dir, hd, hm, hl⟩ |
        ⟨s, ha, hm, hl⟩) <;> refine ⟨⟨s, _, ha, rfl, ?_⟩, hl⟩ <;> unfold pieceMoves
    · exact hm
    · exact hm
    · exact List.mem_flatMap.2 ⟨dir, hd, hm⟩
    · exact List.mem_flatMap.2 ⟨dir, dir_all_iff dir, hm⟩
    · exact List.mem_flatMap.2 ⟨dir, hd, hm⟩
    · exact List.mem_flatMap.2 ⟨dir, dir_all_iff dir, hm⟩
    · exact hm

/-- the classes in the order in which the generator lists them -/
theorem legal_classes (g : Game) (m : Move) :
    m ∈ legalMoves (ofGame g) ↔
      (RPromoCap g.board.squares g.player m ∨ RPromoPush g.board.squares g.player [.queen] m ∨
       RPlainCap g.board.squares g.player m ∨ REp g.board.squares g.player g.ep m ∨
       RPromoPush g.board.squares g.player Gen.promoOrderQuietUnder m ∨ RSingle g.board.squares g.player m ∨
       RDouble g.board.squares g.player m ∨
       RStep g.board.squares g.player .knight knightDeltas m ∨
       RSlide g.board.squares g.player .bishop Dir.diagonal m ∨
       RSlide g.board.squares g.player .rook Dir.cardinal m ∨
       RStep g.board.squares g.player .king kingDeltas m ∨
       (m ∈ castleMoves (ofGame g) ∧ inCheck (applyBoard g.board.squares g.player m) g.player = false)) := by
  rw [mem_legalMoves_iff, or_and_right, piece_class, pawn_class]
  simp only [or_assoc]
  exact Iff.rfl

end Tcheran
