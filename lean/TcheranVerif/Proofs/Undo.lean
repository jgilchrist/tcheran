import TcheranVerif.Proofs.MakeMove
/-!
# Take-backs restore the earlier position exactly (C02)

`undo_make` holds for every move that satisfies `MoveOk`, the shape facts every legal move has
(`moveOk_of_legal` in `Proofs/MakeTotal.lean`).
The scalar fields come back from the history entry; the board comes back because `undo_move` applies, in
reverse order, the inverse of each edit of `make_move` (`removeAt_setAt`, `setAt_removeAt`).
-/

namespace Tcheran
open Board Game

theorem undo_null (c : Cfg) (g : Game) : undoNull (makeNull c g) = some g := by
  unfold undoNull makeNull
  simp only [bind, Option.bind, Option.isSome_none, Bool.false_eq_true, if_false]
  have hp : g.plies + 1 ≠ 0 := by omega
  simp only [hp, if_false, other_other, Nat.add_sub_cancel]

structure MoveOk (g : Game) (mv : Move) : Prop where
  promo : mv.promotion.isSome → g.board.pieceAt mv.src = some ⟨.pawn, g.player⟩
  ep : mv.isEnPassant = true → g.board.pieceAt mv.dst = none ∧
        ∃ cs, mv.dst.backward g.player = some cs ∧ g.board.pieceAt cs = some ⟨.pawn, g.player.other⟩ ∧
              cs ≠ mv.src ∧ cs ≠ mv.dst
  castle : mv.isCastling = true → g.board.pieceAt mv.dst = none ∧
        ∃ rf rt, castleSquares g.player mv.dst = some (rf, rt) ∧ g.board.pieceAt rf = some ⟨.rook, g.player⟩ ∧
              g.board.pieceAt rt = none ∧ rf ≠ rt ∧ rf ≠ mv.src ∧ rf ≠ mv.dst ∧ rt ≠ mv.src ∧ rt ≠ mv.dst

theorem MoveOk.castleRoom {g : Game} {mv : Move} (hok : MoveOk g mv) : CastleRoom g mv := by
  intro hcc rf rt hcs
  obtain ⟨_, rf', rt', hcs', _, hrt, h1, _, _, h4, h5⟩ := hok.castle hcc
  cases hcs.symm.trans hcs'
  exact ⟨Ne.symm h1, h5, h4, hrt⟩

/-- the mover's own edits (lift, clear `dst`, set down) are undone by `undo_move`'s last three -/
theorem undo_board_plain (b0 : Board) (hc : b0.Consistent) (src dst : Sq) (hne : src ≠ dst) (moved placed : Piece)
    (hsrc : b0.pieceAt src = some moved) :
    ((match b0.pieceAt dst with
      | some cp => ((((b0.removeAt src).removeAt dst).setAt dst placed).removeAt dst).setAt dst cp
      | none => (((b0.removeAt src).removeAt dst).setAt dst placed).removeAt dst).setAt src moved) = b0 := by
  have c1 := consistent_removeAt b0 src hc
  have h1d : (b0.removeAt src).pieceAt dst = b0.pieceAt dst := by rw [pieceAt_removeAt, if_neg (Ne.symm hne)]
  rw [removeAt_setAt _ dst placed (consistent_removeAt _ dst c1) (by rw [pieceAt_removeAt, if_pos rfl])]
  have h2 : (match b0.pieceAt dst with
      | some cp => ((b0.removeAt src).removeAt dst).setAt dst cp
      | none => (b0.removeAt src).removeAt dst) = b0.removeAt src := by
    cases hd : b0.pieceAt dst with
    | none => exact removeAt_none _ dst (h1d.trans hd)
    | some cp => exact setAt_removeAt _ dst cp c1 (h1d.trans hd)
  rw [h2, setAt_removeAt b0 src moved hc hsrc]

theorem undo_make (c : Cfg) (g g' : Game) (mv : Move) (hc : g.board.Consistent) (hok : MoveOk g mv)
    (hr : makeMove c g mv = some g') : undoMove g' = some g := by
  obtain ⟨moved, newEp, b, z, i, hsrc, hne, _, hnc, hcs, rfl⟩ := makeMove_eq c g g' mv hr
  unfold undoMove
  simp only [bind, Option.bind, other_other, Nat.add_one_ne_zero, if_false, Nat.add_sub_cancel]
  -- `b3`: the board after the mover's own edits
  generalize hb3 : ((g.board.removeAt mv.src).removeAt mv.dst).setAt mv.dst (placedPiece mv g.player moved) = b3
  have c3 : b3.Consistent := hb3 ▸ consistent_setAt _ _ _ (consistent_removeAt _ _ (consistent_removeAt _ _ hc))
    (by rw [pieceAt_removeAt, if_pos rfl])
  have hat : ∀ t, t ≠ mv.src → t ≠ mv.dst → b3.pieceAt t = g.board.pieceAt t := by
    intro t h1 h2
    rw [← hb3, pieceAt_setAt, if_neg h2, pieceAt_removeAt, if_neg h2, pieceAt_removeAt, if_neg h1]
  unfold piecesBoard at hnc hcs
  simp only [hb3] at hnc hcs
  -- the rook's and the e.p. victim's edits are undone first, which leaves `b3`
  generalize hX : (if mv.isEnPassant = true then _ else _ : Option Board) = X
  have hU : X = some b3 := by
    rw [← hX]
    by_cases hcc : mv.isCastling = true
    · obtain ⟨_, rf, rt, hsq, hrook, hrt0, n1, n2, n3, n4, n5⟩ := hok.castle hcc
      have hnep := castling_not_ep mv hcc
      simp only [hnep, Bool.false_eq_true, if_false] at hcs ⊢
      obtain ⟨rook, hrk, rfl⟩ := hcs hcc rf rt hsq
      rw [hat rf n2 n3, hrook] at hrk
      cases hrk
      simp only [hcc, if_true, hsq]
      rw [removeAt_setAt _ rt _ (consistent_removeAt _ _ c3)
          (by rw [pieceAt_removeAt, if_neg (Ne.symm n1), hat rt n4 n5]; exact hrt0),
        setAt_removeAt _ rf _ c3 (by rw [hat rf n2 n3]; exact hrook)]
    · have hccf : mv.isCastling = false := by simpa using hcc
      by_cases hep : mv.isEnPassant = true
      · obtain ⟨_, cs, hcsq, hvictim, m1, m2⟩ := hok.ep hep
        simp only [hep, if_true, hcsq] at hnc ⊢
        simp only [hccf, Bool.false_eq_true, if_false, hnc hccf]
        rw [setAt_removeAt _ cs _ c3 (by rw [hat cs m1 m2]; exact hvictim)]
      · simp only [hep] at hnc ⊢
        simp only [hccf, Bool.false_eq_true, if_false, hnc hccf]
  -- then the mover's
  have hfin : ∀ X : Board, (if mv.promotion.isSome = true then X.setAt mv.src ⟨.pawn, g.player⟩
      else X.setAt mv.src (placedPiece mv g.player moved)) = X.setAt mv.src moved := by
    intro X
    split
    · rename_i hpr
      rw [Option.some.inj ((hok.promo hpr).symm.trans hsrc)]
    · rename_i hpr
      have : mv.promotion = none := by simpa using hpr
      unfold placedPiece; rw [this]
  subst hU hb3
  simp only [pieceAt_setAt, if_true, hfin]
  exact congrArg (fun bd => some { g with board := bd })
    (undo_board_plain g.board hc mv.src mv.dst hne moved (placedPiece mv g.player moved) hsrc)

end Tcheran
