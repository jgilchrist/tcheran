import TcheranVerif.Proofs.SearchBasics
import TcheranVerif.Proofs.Mirror
/-!
# The evaluation along games and at every node of the search (C16, with C02 / C15; C04)

A legal move does not increase the number of men of either colour (`men_apply`).  Hence one legal move keeps
`Search.NodeOk` (`nodeOk_step`: at most sixteen men a side, one king each, accumulators in step, C15), under which the
evaluation is total, inside the non-mate range and mirror-invariant (`eval_facts`): `eval_along_game`.  A null move
out of check keeps `NodeOk` too, so it holds at every position the search model visits (`ReachN root`: legal moves
and null moves out of check, any depth): `reach_facts`, `reach_eval` (C04).
-/

namespace Tcheran
open Board Game Rules

open Eval in
theorem king_cnt (g : Game) (hi : GInv (ofGame g)) (pl : Player) : cnt g.board (isK pl) Eval.sqs = 1 := by
  obtain ⟨k, hk⟩ := hi.king pl
  have hk : ∀ s, g.board.pieceAt s = some ⟨.king, pl⟩ ↔ s = k := hk
  rw [isK_eq]
  unfold cnt Eval.sqs
  rw [filter_singleton_of_unique (List.finRange 64) _ k (List.nodup_finRange 64) (List.mem_finRange k)]
  · rfl
  · rw [(hk k).2 rfl]; simp
  · intro x _ hx
    apply (hk x).1
    cases h : g.board.pieceAt x with
    | none => rw [h] at hx; cases hx
    | some pc =>
      rw [h] at hx
      simp only [Option.any_some, beq_iff_eq] at hx
      rw [hx]

open Eval in
/-- the men of a colour as the `Legal` predicate and `men_apply` count them, in the classes of the evaluation bound -/
theorem count_ofColour (b : Board) (pl : Player) :
    cnt b (isP pl) Eval.sqs + cnt b (isO pl) Eval.sqs + cnt b (isK pl) Eval.sqs = count b.squares (ofColour pl) :=
  (cnt_player b pl Eval.sqs).symm

open Eval in
theorem Eval.EvalOk.of_ginv {g : Game} (hc : Consistent g.board) (hinc : g.inc = Game.incInit theCfg g.board)
    (hi : GInv (ofGame g)) (hm : ∀ pl, count (ofGame g).board (ofColour pl) ≤ 16) : EvalOk g :=
  ⟨hc, hinc, king_cnt g hi, fun pl => by rw [count_ofColour]; exact hm pl⟩

open Eval in
theorem eval_facts (T : SliderTables) (g : Game) (h : EvalOk g) :
    ∃ v, eval g = some v ∧ -31900 < v ∧ v < 31900 ∧ eval (Game.mirror theCfg g) = some v := by
  obtain ⟨v, hv, b1, b2⟩ := eval_total_bounded T g h
  refine ⟨v, hv, by omega, by omega, ?_⟩
  rw [eval_mirror_counts T g h]
  exact hv

theorem eval_of_legal (T : SliderTables) (g : Game) (hc : Consistent g.board) (hl : legalPos (ofGame g) = true)
    (hinc : g.inc = Game.incInit theCfg g.board) :
    ∃ v, Eval.eval g = some v ∧ -31900 < v ∧ v < 31900 ∧ Eval.eval (Game.mirror theCfg g) = some v :=
  eval_facts T g (.of_ginv hc hinc (legalPos_parts _ hl).1 (legalPos_parts _ hl).2)

namespace Search

structure NodeOk (g : Game) : Prop where
  sinv : SInv g
  sync : Sync theCfg g
  white : count (ofGame g).board (ofColour .white) ≤ 16
  black : count (ofGame g).board (ofColour .black) ≤ 16

theorem NodeOk.men {g : Game} (h : NodeOk g) : ∀ pl, count (ofGame g).board (ofColour pl) ≤ 16
  | .white => h.white
  | .black => h.black

theorem NodeOk.of_men {g : Game} (sinv : SInv g) (sync : Sync theCfg g)
    (men : ∀ pl, count (ofGame g).board (ofColour pl) ≤ 16) : NodeOk g :=
  ⟨sinv, sync, men .white, men .black⟩

theorem nodeOk_of_legal (g : Game) (hs : Sync theCfg g) (hl : legalPos (ofGame g) = true) : NodeOk g :=
  have h := legalPos_parts _ hl
  .of_men ⟨hs.cons, h.1⟩ hs h.2

theorem nodeOk_step (g : Game) (m : Move) (h : NodeOk g) (hl : m ∈ legalMoves (ofGame g)) :
    ∃ g', makeMove theCfg g m = some g' ∧ ofGame g' = Rules.apply (ofGame g) m ∧ NodeOk g' := by
  obtain ⟨g', hg', hr, hi, k⟩ := legal_step theCfg g m h.sinv.1 h.sinv.2 hl
  have hs := k _ (stepInv_sync theCfg) h.sync
  refine ⟨g', hg', hr, .of_men ⟨hs.cons, hi⟩ hs fun pl => ?_⟩
  rw [hr]
  exact Nat.le_trans (men_apply _ m hl pl) (h.men pl)

theorem nodeOk_null (g : Game) (h : NodeOk g) (hc : inCheck g.board.squares g.player = false) :
    NodeOk (makeNull theCfg g) :=
  ⟨sinv_null g h.sinv hc, sync_makeNull theCfg g h.sync, h.white, h.black⟩

theorem nodeOk_eval (T : SliderTables) (g : Game) (h : NodeOk g) :
    ∃ v, Eval.eval g = some v ∧ -31900 < v ∧ v < 31900 ∧ Eval.eval (Game.mirror theCfg g) = some v :=
  eval_facts T g (.of_ginv h.sync.cons h.sync.inc h.sinv.2 h.men)

theorem reach_facts (root : Game) (h : NodeOk root) : ∀ n g, ReachN root n g → NodeOk g := by
  intro n g hr
  induction hr with
  | root => exact h
  | move n g g' m _ hl hm ih =>
    obtain ⟨g1, hg1, _, h1⟩ := nodeOk_step g m ih hl
    cases hm.symm.trans hg1
    exact h1
  | null n g _ hc ih => exact nodeOk_null g ih hc

theorem reach_eval (T : SliderTables) (root : Game) (hs : Sync theCfg root) (hl : legalPos (ofGame root) = true)
    (n : Nat) (g : Game) (hr : ReachN root n g) :
    ∃ v, Eval.eval g = some v ∧ -31900 < v ∧ v < 31900 ∧ isMateInMoves v = none := by
  obtain ⟨v, hv, b1, b2, _⟩ := nodeOk_eval T g (reach_facts root (nodeOk_of_legal root hs hl) n g hr)
  exact ⟨v, hv, b1, b2, isMateInMoves_none v (by omega) (by omega)⟩

end Search

open Eval in
theorem eval_along_game (T : SliderTables) (g0 : Game) (ms : List Move) (pos' : Pos) (hs : Sync theCfg g0)
    (hl : legalPos (ofGame g0) = true) (hp : LegalPath (ofGame g0) ms pos') :
    ∃ g', makeMoves theCfg g0 ms = some g' ∧ ofGame g' = pos' ∧
      ∃ v, eval g' = some v ∧ -31900 < v ∧ v < 31900 ∧ eval (Game.mirror theCfg g') = some v := by
  obtain ⟨g', h1, h2, h⟩ := along_game theCfg (fun _ g => Search.NodeOk g) (fun _ g m => Search.nodeOk_step g m)
    [] g0 ms pos' (Search.nodeOk_of_legal g0 hs hl) hp
  exact ⟨g', h1, h2, Search.nodeOk_eval T g' h⟩

end Tcheran
