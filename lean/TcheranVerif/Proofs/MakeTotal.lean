import TcheranVerif.Proofs.MakeRefines
import TcheranVerif.Proofs.Undo
import TcheranVerif.Proofs.LegalMoveFacts
import TcheranVerif.Proofs.GenerateExact
/-!
# `make_move` answers for every legal move, with the position the rules prescribe (C02)

A legal move meets the hypotheses of `make_refines` (`make_refines_legal`) and what `make_move` needs in order
to answer (`MakeOk`, by `MoveOk.makeOk` from the shape `MoveOk` that `moveOk_of_legal` provides); both are read off
`legal_src`.
-/

namespace Tcheran
open Board Game Rules

/-- what `make_move` needs in order to answer; `dbl` is no need, it holds of every square (`home_forward`) -/
structure MakeOk (g : Game) (mv : Move) : Prop where
  src : ∃ M, g.board.pieceAt mv.src = some M
  ne : mv.src ≠ mv.dst
  ep : mv.isEnPassant = true → ∃ v X, mv.dst.backward g.player = some v ∧ g.board.pieceAt v = some X ∧
    v ≠ mv.src ∧ v ≠ mv.dst
  dbl : mem (pawnBackRank g.player) mv.src = true → ∃ t, mv.src.forward g.player = some t
  castle : mv.isCastling = true → ∀ rf rt, castleSquares g.player mv.dst = some (rf, rt) →
    ∃ R, g.board.pieceAt rf = some R ∧ rf ≠ mv.src ∧ rf ≠ mv.dst

theorem mmPieces_total (c : Cfg) (g : Game) (mv : Move) (h : MakeOk g mv) : ∃ r, mmPieces c g mv = some r := by
  obtain ⟨M, hM⟩ := h.src
  unfold mmPieces
  simp only [bind, pure]
  obtain ⟨ga, hga, sA⟩ := removeAt_total c { g with history := _ :: g.history } mv.src M hM
  rw [hga]
  simp only [Option.bind_some]
  obtain ⟨gb, hgb, sB⟩ := removeIf c ga mv.dst (g.board.pieceAt mv.dst).isSome
    (by rw [sA.board, pieceAt_removeAt, if_neg (Ne.symm h.ne)])
  rw [hgb]
  simp only [Option.bind_some]
  by_cases he : mv.isEnPassant = true
  · obtain ⟨v, X, hv, hX, hv1, hv2⟩ := h.ep he
    obtain ⟨gc, hgc, _⟩ := removeAt_total c (Game.setAt c gb mv.dst (Game.placedPiece mv gb.player M)) v X (by
      show (gb.board.setAt _ _).pieceAt v = _
      rw [pieceAt_setAt, if_neg hv2, sB.board, pieceAt_removeAt, if_neg hv2, sA.board, pieceAt_removeAt, if_neg hv1]
      exact hX)
    rw [if_pos he, show (Game.setAt c gb mv.dst _).player = g.player from sB.player.trans sA.player, hv]
    simp only [Option.bind_some]
    rw [hgc]
    exact ⟨_, rfl⟩
  · rw [if_neg he]
    exact ⟨_, rfl⟩

theorem home_forward (s : Sq) (p : Player) (h : mem (pawnBackRank p) s = true) : ∃ t, s.forward p = some t := by
  rw [pawnHome_eq, Geo.mem_pawnHome, decide_eq_true_eq] at h
  have := Geo.double_some s p h
  cases hf : s.forward p with
  | none => rw [hf] at this; cases this
  | some t => exact ⟨t, rfl⟩

theorem mmNewEp_total (g : Game) (mv : Move) (moved : Piece) : ∃ ne, mmNewEp g mv moved = some ne := by
  unfold mmNewEp
  simp only
  split
  · rename_i hc
    split
    · obtain ⟨t, ht⟩ := home_forward _ _ hc.2.1
      rw [ht]
      exact ⟨_, rfl⟩
    · exact ⟨_, rfl⟩
  · exact ⟨_, rfl⟩

theorem mmCastle_total (c : Cfg) (x : Game) (mv : Move)
    (h : mv.isCastling = true → ∀ rf rt, castleSquares x.player mv.dst = some (rf, rt) →
      ∃ R, x.board.pieceAt rf = some R) : ∃ y, mmCastle c x mv = some y := by
  unfold mmCastle
  split
  · rename_i hcs
    cases hsq : castleSquares x.player mv.dst with
    | none => exact ⟨_, rfl⟩
    | some rr =>
      obtain ⟨R, hR⟩ := h hcs rr.1 rr.2 hsq
      obtain ⟨y, hy, _⟩ := removeAt_total c x rr.1 R hR
      simp only [bind]
      rw [hy]
      exact ⟨_, rfl⟩
  · exact ⟨_, rfl⟩

theorem make_total (c : Cfg) (g : Game) (mv : Move) (h : MakeOk g mv) : ∃ g', makeMove c g mv = some g' := by
  obtain ⟨⟨g1, moved, cap⟩, h1⟩ := mmPieces_total c g mv h
  obtain ⟨_, _, _, s1⟩ := mmPieces_board c g mv g1 moved cap h1
  obtain ⟨ne, hne⟩ := mmNewEp_total g1 mv moved
  obtain ⟨g3, hg3⟩ := mmCastle_total c (mmSetEp c g1 ne) mv fun hcs rf rt hsq => by
    obtain ⟨R, hR, hn1, hn2⟩ := h.castle hcs rf rt ((show (mmSetEp c g1 ne).player = g.player from s1.player) ▸ hsq)
    exact ⟨R, show g1.board.pieceAt rf = some R by rw [s1.board, pieceAt_piecesBoard_castling _ _ _ _ hcs hn1 hn2, hR]⟩
  simp only [makeMove, bind, h1, Option.bind_some, hne, hg3]
  exact ⟨_, rfl⟩

theorem PieceMove.victim {pos : Pos} {s : Sq} {pc : Piece} {m : Move} (pm : PieceMove pos s pc m)
    (hep : EpOk pos.board pos.player pos.ep) (he : m.isEnPassant = true) {v : Sq}
    (hv : offset m.dst 0 (-(fwd pos.player)) = some v) :
    at' pos.board v = some ⟨.pawn, pos.player.other⟩ ∧ v ≠ s ∧ v ≠ m.dst := by
  obtain ⟨_, _, hep', df, hdf, ho⟩ := pm.ep he
  obtain ⟨_, v', hv', hvp⟩ := hep m.dst hep'
  cases hv'.symm.trans hv
  obtain ⟨hvd, hvs, _⟩ := Geo.ep_distinct hdf ho hv
  exact ⟨hvp, hvs, hvd⟩

/-- Of the position only the e.p. clause is needed. -/
theorem moveOk_of_legal (g : Game) (hep : EpOk g.board.squares g.player g.ep) (mv : Move)
    (hl : mv ∈ legalMoves (ofGame g)) :
    MoveOk g mv ∧ (∃ M, g.board.pieceAt mv.src = some M) ∧ mv.src ≠ mv.dst := by
  obtain ⟨pc, ha, hp, hm | ⟨rfl, rf, rt, cm⟩⟩ := legal_src (ofGame g) mv hl
  · have pm := piece_move_facts _ _ pc mv hm
    refine ⟨⟨fun hpr => ?_, fun he => ?_, fun hc => ?_⟩, ⟨pc, ha⟩, pm.ne ha hp⟩
    · exact ha.trans (congrArg some (piece_eq.2 ⟨pm.promo hpr, hp⟩))
    · obtain ⟨_, hemp, hep', _⟩ := pm.ep he
      obtain ⟨_, v, hv, _⟩ := hep mv.dst hep'
      exact ⟨hemp, v, (backward_eq_offset _ _).trans hv, pm.victim hep he hv⟩
    · rw [pm.nc] at hc
      cases hc
  · refine ⟨⟨fun hpr => ?_, fun he => ?_, fun _ => ?_⟩, ⟨_, ha⟩, cm.src ▸ cm.ks_dst⟩
    · rw [cm.eq] at hpr
      cases hpr
    · rw [cm.eq] at he
      cases he
    · exact ⟨cm.dst_empty, rf, rt, cm.squares, cm.rook, cm.rt_empty, cm.rf_rt, cm.src ▸ cm.rf_ks, cm.rf_dst,
        cm.src ▸ cm.rt_ks, cm.rt_dst⟩

theorem MoveOk.makeOk {g : Game} {mv : Move} (h : MoveOk g mv) (hsrc : ∃ M, g.board.pieceAt mv.src = some M)
    (hne : mv.src ≠ mv.dst) : MakeOk g mv where
  src := hsrc
  ne := hne
  ep he := by
    obtain ⟨_, v, hv, hvp, n1, n2⟩ := h.ep he
    exact ⟨v, _, hv, hvp, n1, n2⟩
  dbl := home_forward _ _
  castle hc rf rt hsq := by
    obtain ⟨_, rf', rt', hsq', hrook, _, _, n2, n3, _⟩ := h.castle hc
    cases hsq'.symm.trans hsq
    exact ⟨_, hrook, n2, n3⟩

theorem make_refines_legal (c : Cfg) (g g' : Game) (mv : Move) (hc : Consistent g.board)
    (hl : mv ∈ legalMoves (ofGame g)) (hr : makeMove c g mv = some g') :
    ofGame g' = Rules.apply (ofGame g) mv := by
  obtain ⟨pc, ha, hp, h⟩ := legal_src (ofGame g) mv hl
  have hmover : ∀ M, g.board.pieceAt mv.src = some M → M = pc := fun M hM => Option.some.inj (hM.symm.trans ha)
  refine make_refines c g g' mv hc hr (fun M hM => by rw [hmover M hM]; exact hp) (fun hcs => ?_)
  rcases h with hm | ⟨rfl, rf, rt, cm⟩
  · rw [(piece_move_facts _ _ pc mv hm).nc] at hcs
    cases hcs
  · exact ⟨fun M hM => by rw [hmover M hM], rf, rt, cm.squares, cm.rook, cm.src ▸ cm.rf_ks, cm.rf_dst⟩

theorem make_move_legal_total (c : Cfg) (g : Game) (k : Sq) (h : PosH g k) (mv : Move)
    (hl : mv ∈ legalMoves (ofGame g)) :
    ∃ g', makeMove c g mv = some g' ∧ ofGame g' = Rules.apply (ofGame g) mv := by
  obtain ⟨hok, hsrc, hne⟩ := moveOk_of_legal g h.ep mv hl
  obtain ⟨g', hg'⟩ := make_total c g mv (hok.makeOk hsrc hne)
  exact ⟨g', hg', make_refines_legal c g g' mv h.ctx.cons hl hg'⟩

end Tcheran
