import TcheranVerif.Proofs.AttackSpec
import TcheranVerif.Proofs.Geo.Steps
/-!
# Attacks as geometry + emptiness, and what a move does to them (pin theory of C01)
-/

namespace Tcheran
open Board Geometry Rules

/-- the part of `AttacksFrom` that only looks at the attacker's own square -/
def Geo (b : RBoard) (by' : Player) (q t : Sq) : Prop :=
  ∃ k, at' b q = some ⟨k, by'⟩ ∧
    ((k = .pawn ∧ (offset t (-1) (-(fwd by')) = some q ∨ offset t 1 (-(fwd by')) = some q)) ∨
     (k = .knight ∧ ∃ d ∈ knightDeltas, offset t d.1 d.2 = some q) ∨
     (k = .king ∧ ∃ d ∈ kingDeltas, offset t d.1 d.2 = some q) ∨
     ((k = .bishop ∨ k = .queen) ∧ ∃ d ∈ Dir.diagonal, q ∈ ray d t) ∨
     ((k = .rook ∨ k = .queen) ∧ ∃ d ∈ Dir.cardinal, q ∈ ray d t))

theorem pawn_between {t q : Sq} {o : Player} (h : offset t (-1) (-(fwd o)) = some q ∨ offset t 1 (-(fwd o)) = some q) :
    betweenList t q = [] := by
  have : -1 ≤ -(fwd o) ∧ -(fwd o) ≤ 1 := by cases o <;> simp [fwd]
  rcases h with h | h <;> exact Geo.betweenList_near (Geo.offset_near h (by omega) this)

theorem attacksFrom_iff_geo (b : RBoard) (by' : Player) (q t : Sq) :
    AttacksFrom b by' q t ↔ (Geo b by' q t ∧ ∀ x ∈ betweenList t q, occOf b x = false) := by
  have hs : ∀ dirs : List Dir, (∃ d ∈ dirs, q ∈ seen (occOf b) (ray d t)) ↔
      ((∃ d ∈ dirs, q ∈ ray d t) ∧ ∀ x ∈ betweenList t q, occOf b x = false) := fun dirs => by
    simp only [mem_seen_ray, ← and_assoc, exists_and_right]
  unfold AttacksFrom Geo
  rw [hs, hs]
  -- the pawn, knight and king clauses are the same on both sides, and nothing lies between
  constructor
  · rintro ⟨k, a, h⟩
    refine ⟨⟨k, a, h.imp id (Or.imp id (Or.imp id (Or.imp (And.imp id And.left) (And.imp id And.left))))⟩, ?_⟩
    rcases h with ⟨_, h⟩ | ⟨_, d, hd, h⟩ | ⟨_, d, hd, h⟩ | ⟨_, _, he⟩ | ⟨_, _, he⟩
    · rw [pawn_between h]; nofun
    · rw [Geo.betweenList_knight hd h]; nofun
    · rw [Geo.betweenList_king hd h]; nofun
    · exact he
    · exact he
  · rintro ⟨⟨k, a, h⟩, he⟩
    exact ⟨k, a, h.imp id (Or.imp id (Or.imp id (Or.imp (And.imp id (⟨·, he⟩)) (And.imp id (⟨·, he⟩)))))⟩

theorem attacker_between_empty {b : RBoard} {o : Player} {c k x : Sq} (h : AttacksFrom b o c k)
    (hx : x ∈ betweenList k c) : occOf b x = false :=
  ((attacksFrom_iff_geo b o c k).1 h).2 x hx

theorem attacker_occ {b : RBoard} {o : Player} {c k : Sq} (h : AttacksFrom b o c k) : occOf b c = true :=
  h.elim fun _ a => Own.occ ⟨_, a.1, rfl⟩

theorem attacked_iff_geo (b : RBoard) (o : Player) (k : Sq) :
    attacked b o k = true ↔ ∃ q, Geo b o q k ∧ ∀ x ∈ betweenList k q, occOf b x = false := by
  rw [attacked_iff]
  exact exists_congr fun q => attacksFrom_iff_geo b o q k

theorem geo_congr (b1 b2 : RBoard) (by' : Player) (q t : Sq) (h : at' b1 q = at' b2 q) :
    Geo b1 by' q t ↔ Geo b2 by' q t := by
  unfold Geo; rw [h]

theorem geo_own {b : RBoard} {o : Player} {q t : Sq} (h : Geo b o q t) : Own b o q := by
  obtain ⟨k, a, _⟩ := h
  exact ⟨_, a, rfl⟩

theorem geo_ne {b : RBoard} {o : Player} {q t : Sq} (h : Geo b o q t) : q ≠ t := by
  rintro rfl
  obtain ⟨k, _, h⟩ := h
  rcases h with ⟨_, h | h⟩ | ⟨_, d, hd, h⟩ | ⟨_, d, hd, h⟩ | ⟨_, d, _, h⟩ | ⟨_, d, _, h⟩
  · exact offset_ne_self (Or.inl (by decide)) h
  · exact offset_ne_self (Or.inl (by decide)) h
  · exact knight_offset_ne q d hd h
  · exact king_offset_ne q d hd h
  · exact Geo.self_not_mem_ray d q h
  · exact Geo.self_not_mem_ray d q h

theorem attacked_off_target (b1 b2 : RBoard) (by' : Player) (t : Sq)
    (h : ∀ s, s ≠ t → at' b1 s = at' b2 s) : attacked b1 by' t = attacked b2 by' t := by
  rw [Bool.eq_iff_iff, attacked_iff_geo, attacked_iff_geo]
  refine exists_congr fun q => ?_
  by_cases hq : q = t
  · exact ⟨fun g => absurd hq (geo_ne g.1), fun g => absurd hq (geo_ne g.1)⟩
  · rw [geo_congr b1 b2 by' q t (h q hq)]
    refine and_congr_right fun _ => forall₂_congr fun x hx => ?_
    have hxt : x ≠ t := fun e => by
      obtain ⟨d, h1, _⟩ := Geo.mem_betweenList.1 hx
      exact Geo.onDir_irrefl d t (e ▸ h1)
    rw [occOf, occOf, h x hxt]

/-- the mailbox after a move of `p`, as far as it matters for attacks by the other side -/
structure Moved (b b' : RBoard) (p : Player) (V D : List Sq) : Prop where
  vac : ∀ v ∈ V, at' b' v = none
  fill : ∀ d ∈ D, Own b' p d
  off : ∀ x, x ∉ V → x ∉ D → at' b' x = at' b x

theorem Moved.attacked_iff {b b' : RBoard} {p : Player} {V D : List Sq} (h : Moved b b' p V D) (k : Sq) :
    attacked b' p.other k = true ↔
      ∃ q, Geo b p.other q k ∧ q ∉ V ∧ q ∉ D ∧ (∀ d ∈ D, d ∉ betweenList k q) ∧
        ∀ x ∈ betweenList k q, x ∈ V ∨ occOf b x = false := by
  rw [attacked_iff_geo]
  have hocc : ∀ x, occOf b' x = false ↔ (x ∉ D ∧ (x ∈ V ∨ occOf b x = false)) := by
    intro x
    by_cases h1 : x ∈ D
    · simp [h1, (h.fill x h1).occ]
    · by_cases h2 : x ∈ V
      · simp [h1, h2, occOf, h.vac x h2]
      · simp [h1, h2, occOf, h.off x h2 h1]
  have hstay : ∀ q, Own b' p.other q → q ∉ V ∧ q ∉ D := by
    intro q hq
    refine ⟨fun hv => ?_, fun hd => (h.fill q hd).ne_other hq rfl⟩
    obtain ⟨Y, hY, _⟩ := hq
    rw [h.vac q hv] at hY; cases hY
  constructor
  · rintro ⟨q, hg, he⟩
    obtain ⟨hqV, hqD⟩ := hstay q (geo_own hg)
    exact ⟨q, (geo_congr b' b p.other q k (h.off q hqV hqD)).1 hg, hqV, hqD,
      fun d hd hm => ((hocc d).1 (he d hm)).1 hd, fun x hx => ((hocc x).1 (he x hx)).2⟩
  · rintro ⟨q, hg, hqV, hqD, hdn, he⟩
    exact ⟨q, (geo_congr b' b p.other q k (h.off q hqV hqD)).2 hg,
      fun x hx => (hocc x).2 ⟨fun hd => hdn x hd hx, he x hx⟩⟩

/-- what a plain (non-castling, non-e.p.) move of a non-king man from `s` to `d` does to the mailbox -/
structure PlainStep (b b' : RBoard) (p : Player) (s d : Sq) : Prop where
  src_own : ∃ X, at' b s = some X ∧ X.player = p
  dst_own : ∃ Y, at' b' d = some Y ∧ Y.player = p ∧ Y.kind ≠ .king
  src_empty : at' b' s = none
  off : ∀ x, x ≠ s → x ≠ d → at' b' x = at' b x
  ne : s ≠ d

theorem PlainStep.moved {b b' : RBoard} {p : Player} {s d : Sq} (h : PlainStep b b' p s d) :
    Moved b b' p [s] [d] where
  vac := fun v hv => by rw [List.mem_singleton.1 hv]; exact h.src_empty
  fill := fun x hx => by
    obtain ⟨Y, hY, hYp, _⟩ := h.dst_own
    rw [List.mem_singleton.1 hx]; exact ⟨Y, hY, hYp⟩
  off := fun x h1 h2 => h.off x (by simpa using h1) (by simpa using h2)

theorem plain_attacked_iff (b b' : RBoard) (p : Player) (k s d : Sq) (h : PlainStep b b' p s d) :
    attacked b' p.other k = true ↔
      ∃ q, Geo b p.other q k ∧ q ≠ d ∧ d ∉ betweenList k q ∧
        ∀ x ∈ betweenList k q, x = s ∨ occOf b x = false := by
  rw [h.moved.attacked_iff]
  simp only [List.mem_singleton, forall_eq]
  -- an enemy man does not stand on `s`, where the mover stood
  exact exists_congr fun q => ⟨fun ⟨hg, _, r⟩ => ⟨hg, r⟩,
    fun ⟨hg, r⟩ => ⟨hg, fun e => Own.ne_other h.src_own (e ▸ geo_own hg) rfl, r⟩⟩

end Tcheran
