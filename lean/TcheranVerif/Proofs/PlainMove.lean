import TcheranVerif.Proofs.PinLegal
import TcheranVerif.Proofs.RulesSplit
/-!
# Plain moves of the rules specification: the king's steps, the other men's moves, the engine's check mask (C01)
-/

namespace Tcheran
open Board Geometry Rules

theorem king_step_legal (T : SliderTables) (bd : Board) (hc : Consistent bd) (p : Player) (k t : Sq)
    (hk : ∀ s, bd.pieceAt s = some ⟨.king, p⟩ ↔ s = k) (m : Move)
    (hm : m = Move.quiet k t ∨ m = Move.capture k t) :
    inCheck (applyBoard bd.squares p m) p = false ↔ attackersOf (bd.removeAt k) p t = 0#64 := by
  obtain ⟨hsrc, hdst, hf, hpl⟩ :
      m.src = k ∧ m.dst = t ∧ m.Plain ∧ Game.placedPiece m p ⟨.king, p⟩ = ⟨.king, p⟩ := by
    rcases hm with rfl | rfl <;> simp [Move.Plain, Move.quiet, Move.capture, Move.promotion, Game.placedPiece]
  have hat := applyBoard_plain bd.squares p m ⟨.king, p⟩ hf (hsrc ▸ (hk k).2 rfl)
  rw [hsrc, hdst, hpl] at hat
  have hk2 := kingSq_of_only (by rw [hat t, if_pos rfl]) fun s hs => by
    rw [hat s, if_neg hs]
    split
    · nofun
    · exact fun e => ‹¬s = k› ((hk s).1 e)
  rw [inCheck_of_kingSq hk2]
  have hoff : ∀ s, s ≠ t → at' (applyBoard bd.squares p m) s = at' (bd.removeAt k).squares s := by
    intro s hs
    rw [hat s, if_neg hs, at'_squares, at'_squares, pieceAt_removeAt]
  rw [attacked_off_target _ _ p.other t hoff, attackersOf_eq_zero T _ (consistent_removeAt bd k hc)]

theorem king_moves_exact (T : SliderTables) (g : Game) (hc : Consistent g.board) (k : Sq)
    (hk : ∀ s, g.board.pieceAt s = some ⟨.king, g.player⟩ ↔ s = k) (m : Move) :
    (m ∈ Gen.kingCaptures g k (g.board.occFor g.player.other) ++ Gen.kingQuiets g k g.board.occupancy) ↔
    (m ∈ stepMoves g.board.squares g.player k kingDeltas ∧
      inCheck (applyBoard g.board.squares g.player m) g.player = false) := by
  rw [List.mem_append, mem_stepMoves]
  unfold Gen.kingCaptures Gen.kingQuiets
  simp only [List.mem_flatMap, mem_toList, mem_and, mem_not, Bool.and_eq_true, mem_kingAttacks,
    mem_occFor g.board hc, mem_occupancy g.board hc, Bool.not_eq_true', occOf_eq_false, own_other_iff,
    beq_iff_eq, List.mem_ite_nil_right, List.mem_singleton]
  have key := fun t hm => king_step_legal T g.board hc g.player k t hk m hm
  constructor
  · rintro (⟨t, ⟨⟨d, hd, ho⟩, pc, hpc, hpl⟩, hz, hm⟩ | ⟨t, ⟨⟨d, hd, ho⟩, he⟩, hz, hm⟩)
    · exact ⟨⟨d, hd, t, ho, Or.inr ⟨pc, hpc, hpl, hm⟩⟩, (key t (Or.inr hm)).2 hz⟩
    · exact ⟨⟨d, hd, t, ho, Or.inl ⟨he, hm⟩⟩, (key t (Or.inl hm)).2 hz⟩
  · rintro ⟨⟨d, hd, t, ho, ⟨he, hm⟩ | ⟨pc, hpc, hpl, hm⟩⟩, hl⟩
    · exact Or.inr ⟨t, ⟨⟨d, hd, ho⟩, he⟩, (key t (Or.inl hm)).1 hl, hm⟩
    · exact Or.inl ⟨t, ⟨⟨d, hd, ho⟩, pc, hpc, hpl⟩, (key t (Or.inr hm)).1 hl, hm⟩

theorem plain_move_legal (sq : RBoard) (p : Player) (k : Sq)
    (hk : ∀ s, at' sq s = some ⟨.king, p⟩ ↔ s = k) (m : Move) (X : Piece)
    (hsrc : at' sq m.src = some X) (hXp : X.player = p) (hXk : X.kind ≠ .king)
    (hf : m.Plain) (hdk : m.dst ≠ k) (hsd : m.src ≠ m.dst) :
    inCheck (applyBoard sq p m) p = false ↔
      (CheckOK sq p.other k m.dst ∧ PinOK sq p.other k m.src m.dst) := by
  have hat := applyBoard_plain sq p m X hf hsrc
  have hsk : m.src ≠ k := fun e => by
    rw [e, (hk k).2 rfl] at hsrc
    exact hXk (Option.some.inj hsrc ▸ rfl)
  have hpl : (Game.placedPiece m p X).player = p ∧ (Game.placedPiece m p X).kind ≠ .king := by
    unfold Game.placedPiece
    cases m.promotion with
    | none => exact ⟨hXp, hXk⟩
    | some pr => exact ⟨rfl, promo_piece_ne_king pr⟩
  have hstep : PlainStep sq (applyBoard sq p m) p m.src m.dst :=
    { src_own := ⟨X, hsrc, hXp⟩
      dst_own := ⟨Game.placedPiece m p X, by rw [hat, if_pos rfl], hpl.1, hpl.2⟩
      src_empty := by rw [hat, if_neg hsd, if_pos rfl]
      off := fun x h1 h2 => by rw [hat, if_neg h2, if_neg h1]
      ne := hsd }
  have hk2 : kingSq (applyBoard sq p m) p = some k := kingSq_stays hk fun x => by
    rw [hat x]
    repeat' split
    · exact Or.inr ⟨fun e => hpl.2 (by rw [Option.some.inj e]), fun e => hdk ((hk _).1 (‹x = m.dst› ▸ e))⟩
    · exact Or.inr ⟨nofun, fun e => hsk ((hk _).1 (‹x = m.src› ▸ e))⟩
    · exact Or.inl rfl
  rw [inCheck_of_kingSq hk2]
  exact plain_legal_iff sq _ p k m.src m.dst hstep hsk hdk

theorem checkOK_zero (T : SliderTables) (bd : Board) (hc : Consistent bd) (p : Player) (k d : Sq)
    (h : attackersOf bd p k = 0#64) : CheckOK bd.squares p.other k d := by
  intro c hcAtt
  have := (mem_attackersOf T bd hc p k c).2 hcAtt
  rw [h, mem_zero] at this; cases this

theorem checkOK_one (T : SliderTables) (bd : Board) (hc : Consistent bd) (p : Player) (k d c : Sq)
    (h : BB.toList (attackersOf bd p k) = [c]) :
    CheckOK bd.squares p.other k d ↔ mem (between c k ||| attackersOf bd p k) d = true := by
  have honly : ∀ x, AttacksFrom bd.squares p.other x k ↔ x = c := fun x => by
    rw [← mem_attackersOf T bd hc, ← mem_toList, h, List.mem_singleton]
  rw [mem_or, Bool.or_eq_true, between_comm, mem_between, ← mem_toList, h, List.mem_singleton]
  unfold CheckOK
  simp only [honly, forall_eq]
  exact ⟨fun h => h.symm.imp id Eq.symm, fun h => h.symm.imp Eq.symm id⟩

/-- The destination cannot be one checker and stand between the king and the other, which sees the king; and
two checkers on the ray through the destination would each be the first man on it. -/
theorem checkOK_two {b : RBoard} {o : Player} {k d c1 c2 : Sq} (a1 : AttacksFrom b o c1 k)
    (a2 : AttacksFrom b o c2 k) (hne : c1 ≠ c2) : ¬ CheckOK b o k d := by
  intro hck
  rcases hck c1 a1 with e1 | e1 <;> rcases hck c2 a2 with e2 | e2
  · exact hne (e1.trans e2.symm)
  · rw [← e1] at e2
    have := attacker_between_empty a2 e2
    rw [attacker_occ a1] at this; cases this
  · rw [← e2] at e1
    have := attacker_between_empty a1 e1
    rw [attacker_occ a2] at this; cases this
  · obtain ⟨dir1, hq1, hx1, _⟩ := Geo.betweenList_on_ray e1
    obtain ⟨dir2, hq2, hx2, _⟩ := Geo.betweenList_on_ray e2
    obtain rfl := Geo.ray_dir_unique hx1 hx2
    exact hne (Geo.first_unique (P := fun x => occOf b x = true) hq2 hq1 (attacker_occ a2) (attacker_occ a1)
      (fun y hy => by simp [attacker_between_empty a2 hy]) (fun y hy => by simp [attacker_between_empty a1 hy]))

theorem checkOK_many (T : SliderTables) (bd : Board) (hc : Consistent bd) (p : Player) (k d : Sq)
    (h : 1 < BB.count (attackersOf bd p k)) : ¬ CheckOK bd.squares p.other k d := by
  obtain ⟨c1, c2, hne, h1, h2⟩ := one_lt_count h
  exact checkOK_two ((mem_attackersOf T bd hc p k c1).1 h1) ((mem_attackersOf T bd hc p k c2).1 h2) hne

end Tcheran
