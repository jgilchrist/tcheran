import TcheranVerif.Proofs.GenerateExact
/-!
# The stage a move belongs to: no move is listed twice, and the capture stage holds every loud move (C01, C10)

Each stage of the generator is duplicate-free by construction (nested iteration over bitboards, the
source and destination squares are read back from the move), and the stages are told apart by the kind
of the man on the source square, the flag and the shape of the move: `stage` computes the number of the
stage from the move, and every stage lists only moves of its own number (`IsStage`, `stages_isStage`). Both calls
return sublists of the sixteen numbered stages (`generate_run`). So nothing is generated twice
(`generate_nodup`), and what `generate_quiets` returns belongs to a stage numbered 9 or higher, that is,
carries one of the flags quiet / castle / under-promotion push (`Run.quietish`). With
`generate_exact` every legal capture (en passant and capturing promotions included) and every queen promotion
is therefore in the output of `generate_captures`, which the captures-only picker hands out (C10, second
clause: `loud_complete`).
-/

namespace Tcheran
open Board Geometry Rules

/-- the stage numbers of `capStages` and `quietStages` (`stages_isStage` ties the two), from the kind of the mover,
the flag, whether the move is diagonal, and how many ranks it crosses. Castling and e.p. come first: their flag
decides whoever moves; for the sliders' four stages only the shape matters. -/
def stageCode : Option PieceKind → MoveFlag → Bool → Nat → Nat
  | _, .castle, _, _ => 16
  | _, .enPassant, _, _ => 4
  | some .pawn, .capPromoB, _, _ => 1
  | some .pawn, .capPromoN, _, _ => 1
  | some .pawn, .capPromoR, _, _ => 1
  | some .pawn, .capPromoQ, _, _ => 1
  | some .pawn, .promoQ, _, _ => 2
  | some .pawn, .promoB, _, _ => 9
  | some .pawn, .promoN, _, _ => 9
  | some .pawn, .promoR, _, _ => 9
  | some .pawn, .capture, _, _ => 3
  | some .pawn, .quiet, _, 1 => 10
  | some .pawn, .quiet, _, _ => 11
  | some .knight, .capture, _, _ => 5
  | some .knight, .quiet, _, _ => 12
  | some .king, .capture, _, _ => 8
  | some .king, .quiet, _, _ => 15
  | _, .capture, true, _ => 6
  | _, .capture, false, _ => 7
  | _, .quiet, true, _ => 13
  | _, .quiet, false, _ => 14
  | _, _, _, _ => 0

def stage (b : RBoard) (m : Move) : Nat :=
  stageCode ((at' b m.src).map (·.kind)) m.flag (Geo.diagMove m.src m.dst) (Geo.rankDist m.src m.dst)

theorem stage_of (b : RBoard) (m : Move) (k : PieceKind) (pl : Player) (h : at' b m.src = some ⟨k, pl⟩) :
    stage b m = stageCode (some k) m.flag (Geo.diagMove m.src m.dst) (Geo.rankDist m.src m.dst) := by
  unfold stage; rw [h]; rfl

theorem stage_of_flag (b : RBoard) (m : Move) :
    (m.flag = .enPassant → stage b m = 4) ∧ (m.flag = .castle → stage b m = 16) := by
  unfold stage
  generalize (at' b m.src).map (·.kind) = kk
  constructor <;> intro e <;> rw [e] <;> rcases kk with _ | kk <;> first | rfl | (cases kk <;> rfl)

theorem stageCode_quiet (kk : Option PieceKind) (fl : MoveFlag) (dm : Bool) (rd : Nat)
    (h : 9 ≤ stageCode kk fl dm rd) : (fl.code &&& 1 == 1) = false ∧ fl ≠ .promoQ := by
  unfold stageCode at h
  split at h <;> first | exact absurd h (by decide) | exact ⟨by decide, by decide⟩

theorem quietish_of_stage (b : RBoard) (m : Move) (h : 9 ≤ stage b m) : m.isCapture = false ∧ m.flag ≠ .promoQ :=
  stageCode_quiet _ _ _ _ h

def IsStage (b : RBoard) (n : Nat) (L : List Move) : Prop := L.Nodup ∧ ∀ m ∈ L, stage b m = n

theorem isStage_nil (b : RBoard) (n : Nat) : IsStage b n [] := ⟨List.nodup_nil, nofun⟩

theorem isStage_singleton {b : RBoard} {n : Nat} {m : Move} (h : stage b m = n) : IsStage b n [m] :=
  ⟨List.pairwise_singleton _ m, fun x hx => by rw [List.mem_singleton.1 hx]; exact h⟩

/-- `for x in l { push the moves f x }`, where a move of `f x` tells that it comes from `x` -/
theorem isStage_flatMap {α} {b : RBoard} {n : Nat} (l : List α) (f : α → List Move) (key : Move → α) (hl : l.Nodup)
    (hf : ∀ x ∈ l, IsStage b n (f x) ∧ ∀ m ∈ f x, key m = x) : IsStage b n (l.flatMap f) :=
  ⟨List.pairwise_flatMap.2 ⟨fun x hx => (hf x hx).1.1, hl.imp_of_mem fun ha hb hne x hx y hy e =>
      hne (by rw [← (hf _ ha).2 x hx, ← (hf _ hb).2 y hy, e])⟩,
    fun m hm => by
      obtain ⟨x, hx, hmx⟩ := List.mem_flatMap.1 hm
      exact (hf x hx).1.2 m hmx⟩

/-- `for s in A { for d in B(s) { push(mk s d) } }` -/
theorem loop_isStage (b : RBoard) (A : BB) (B : Sq → BB) (mk : Sq → Sq → Move) (n : Nat)
    (hs : ∀ s d, (mk s d).src = s) (hd : ∀ s d, (mk s d).dst = d)
    (hn : ∀ s d, mem A s = true → mem (B s) d = true → stage b (mk s d) = n) :
    IsStage b n ((BB.toList A).flatMap fun s => (BB.toList (B s)).map fun d => mk s d) := by
  refine isStage_flatMap _ _ Move.src (toList_nodup A) fun s hsA => ⟨⟨?_, fun m hm => ?_⟩, fun m hm => ?_⟩
  · exact nodup_map_key _ _ Move.dst id (fun d _ => hd s d) (fun _ _ _ _ e => e) (toList_nodup (B s))
  · obtain ⟨d, hdB, rfl⟩ := List.mem_map.1 hm
    exact hn s d ((mem_toList _ _).1 hsA) ((mem_toList _ _).1 hdB)
  · obtain ⟨d, _, rfl⟩ := List.mem_map.1 hm
    exact hs s d

/-- the two lists of `mem_caps_quiets` -/
theorem caps_quiets_isStage (b : RBoard) (A : BB) (D : Sq → BB) (X Y : BB) (nc nq : Nat)
    (hn : ∀ s d, mem A s = true → mem (D s) d = true →
      stage b (Move.capture s d) = nc ∧ stage b (Move.quiet s d) = nq) :
    IsStage b nc ((BB.toList A).flatMap fun s => (BB.toList (D s &&& X)).map fun d => Move.capture s d) ∧
    IsStage b nq ((BB.toList A).flatMap fun s => (BB.toList (D s &&& Y)).map fun d => Move.quiet s d) := by
  have hD : ∀ {Z : BB} {s d : Sq}, mem (D s &&& Z) d = true → mem (D s) d = true := fun h => by
    rw [mem_and, Bool.and_eq_true] at h
    exact h.1
  exact ⟨loop_isStage b A _ Move.capture nc (fun _ _ => rfl) (fun _ _ => rfl) fun s d hs hd => (hn s d hs (hD hd)).1,
    loop_isStage b A _ Move.quiet nq (fun _ _ => rfl) (fun _ _ => rfl) fun s d hs hd => (hn s d hs (hD hd)).2⟩

/-- `for d in A { f d }`, where `f d` pushes the one move `mk d` or nothing -/
theorem opt_loop_isStage (b : RBoard) (A : BB) (f : Sq → List Move) (mk : Sq → Move) (key : Move → Sq) (n : Nat)
    (hf : ∀ d, f d = [mk d] ∨ f d = []) (hk : ∀ d, key (mk d) = d) (hn : ∀ d, stage b (mk d) = n) :
    IsStage b n ((BB.toList A).flatMap f) := by
  refine isStage_flatMap _ _ key (toList_nodup A) fun d _ => ?_
  rcases hf d with e | e <;> rw [e]
  · exact ⟨isStage_singleton (hn d), fun m hm => by rw [List.mem_singleton.1 hm]; exact hk d⟩
  · exact ⟨isStage_nil b n, nofun⟩

theorem pushList_isStage (b : RBoard) (τ : Sq → Sq) (A : BB) (c : Sq → Sq → Bool) (E : Sq → Sq → List Move) (n : Nat)
    (hE : ∀ s, mem A s = true → IsStage b n (E s (τ s)) ∧ ∀ m ∈ E s (τ s), m.src = s) :
    IsStage b n (pushList τ A c E).flatten := by
  unfold pushList
  rw [← List.flatMap_def]
  refine isStage_flatMap _ _ Move.src (toList_nodup A) fun s hs => ?_
  split
  · exact hE s ((mem_toList _ _).1 hs)
  · exact ⟨isStage_nil b n, nofun⟩

theorem promoMoves_nodup (which : List Promo) (hw : which.Nodup) (mk : Promo → Move)
    (hmk : ∀ a b, (mk a).flag = (mk b).flag → a = b) : (which.map mk).Nodup :=
  nodup_map_key _ _ Move.flag (fun pr => (mk pr).flag) (fun _ _ => rfl) (fun a _ b _ e => hmk a b e) hw

theorem qp_flag_inj (s t : Sq) (a b : Promo)
    (e : (Move.quietPromotion s t a).flag = (Move.quietPromotion s t b).flag) : a = b := by
  cases a <;> cases b <;> first | rfl | (simp [Move.quietPromotion] at e)

theorem cp_flag_inj (s t : Sq) (a b : Promo)
    (e : (Move.capturePromotion s t a).flag = (Move.capturePromotion s t b).flag) : a = b := by
  cases a <;> cases b <;> first | rfl | (simp [Move.capturePromotion] at e)

theorem promoCaps_isStage (bd : Board) (hc : Consistent bd) (p : Player) (th cm op dp : BB) :
    IsStage bd.squares 1 (Gen.pawnPromoCaptures p (bd.pawnsOf p) th cm op dp) := by
  unfold Gen.pawnPromoCaptures
  refine isStage_flatMap _ _ Move.src (toList_nodup _) fun s hs => ?_
  rw [mem_toList, mem_and, mem_and, Bool.and_eq_true, Bool.and_eq_true, mem_pawnsOf bd hc] at hs
  have inner : ∀ t, IsStage bd.squares 1 (Gen.promoOrderCaptures.map fun pr => Move.capturePromotion s t pr) ∧
      ∀ m ∈ Gen.promoOrderCaptures.map (fun pr => Move.capturePromotion s t pr), m.src = s ∧ m.dst = t := fun t =>
    ⟨⟨promoMoves_nodup _ (by decide) _ (cp_flag_inj s t), fun m hm => by
        obtain ⟨pr, _, rfl⟩ := List.mem_map.1 hm
        rw [stage_of _ _ .pawn p (by rw [cp_src]; exact hs.1.1)]
        cases pr <;> rfl⟩,
      fun m hm => by
        obtain ⟨pr, _, rfl⟩ := List.mem_map.1 hm
        exact ⟨cp_src s t pr, cp_dst s t pr⟩⟩
  refine ⟨isStage_flatMap _ _ Move.dst (toList_nodup _) fun t _ => ⟨(inner t).1, fun m hm => ((inner t).2 m hm).2⟩,
    fun m hm => ?_⟩
  obtain ⟨t, _, hm⟩ := List.mem_flatMap.1 hm
  exact ((inner t).2 m hm).1

theorem promoPushes_isStage (bd : Board) (hc : Consistent bd) (p : Player) (which : List Promo) (n : Nat)
    (hw : which.Nodup)
    (hn : ∀ pr ∈ which, ∀ s t dm rd, stageCode (some .pawn) (Move.quietPromotion s t pr).flag dm rd = n)
    (cm op dp : BB) : IsStage bd.squares n (promoPushes p which (bd.pawnsOf p) bd.occupancy cm op dp).flatten := by
  refine pushList_isStage _ _ _ _ _ n fun s hs => ?_
  rw [mem_and, Bool.and_eq_true, mem_canPushOnce bd hc] at hs
  refine ⟨⟨promoMoves_nodup which hw _ (qp_flag_inj s _), fun m hm => ?_⟩, fun m hm => ?_⟩
  · obtain ⟨pr, hpr, rfl⟩ := List.mem_map.1 hm
    rw [stage_of _ _ .pawn p (by rw [qp_src]; exact hs.1.1)]
    exact hn pr hpr _ _ _ _
  · obtain ⟨pr, _, rfl⟩ := List.mem_map.1 hm
    exact qp_src _ _ pr

theorem plainCaps_isStage (bd : Board) (hc : Consistent bd) (p : Player) (th cm op dp : BB) :
    IsStage bd.squares 3 (Gen.pawnPlainCaptures p (bd.pawnsOf p) th cm op dp) := by
  refine loop_isStage _ _ _ Move.capture 3 (fun _ _ => rfl) (fun _ _ => rfl) fun s d hs _ => ?_
  rw [mem_and, mem_and, Bool.and_eq_true, Bool.and_eq_true, mem_pawnsOf bd hc] at hs
  rw [stage_of _ (Move.capture s d) .pawn p hs.1.1]
  rfl

theorem ep_isStage (b : RBoard) {g : Game} {pawns : BB} {k : Sq} {cm op dp : BB} {L : List Move}
    (h : Gen.pawnEnPassant g pawns k cm op dp = some L) : IsStage b 4 L := by
  rcases pawnEnPassant_cases h with rfl | ⟨t, v, _, rfl⟩
  · exact isStage_nil b 4
  · refine opt_loop_isStage b _ _ (fun s => Move.enPassant s t) Move.src 4 (fun s => ?_) (fun _ => rfl)
      fun s => (stage_of_flag b _).1 rfl
    split
    · split <;> simp
    · simp

theorem knight_isStage (bd : Board) (hc : Consistent bd) (p : Player) (cm op dp : BB) :
    IsStage bd.squares 5 (Gen.knightCaptures (bd.knightsOf p) (bd.occFor p.other) cm op dp) ∧
    IsStage bd.squares 12 (Gen.knightQuiets (bd.knightsOf p) bd.occupancy cm op dp) :=
  caps_quiets_isStage _ _ (fun n => knightAttacks n &&& cm) _ _ 5 12 fun s d hs _ => by
    rw [mem_and, Bool.and_eq_true] at hs
    have hk := (mem_knightsOf bd hc p s).1 hs.1
    exact ⟨by rw [stage_of _ (Move.capture s d) _ _ hk]; rfl, by rw [stage_of _ (Move.quiet s d) _ _ hk]; rfl⟩

/-- `f` the family, `att` its lookup, `PO` the pin mask of the other family, `PS` its own -/
theorem slider_isStage (bd : Board) (hc : Consistent bd) (p : Player) (f : Bool)
    (att : Sq → BB → BB) (hatt : ∀ s occ, att s occ = slideSpec (fam f) s occ) (sliders : BB)
    (hsl : ∀ s, mem sliders s = true →
      (at' bd.squares s = some ⟨famKind f, p⟩ ∨ at' bd.squares s = some ⟨.queen, p⟩)) (cm PO PS X Y : BB) :
    IsStage bd.squares (cond f 7 6) ((BB.toList (sliders &&& ~~~PO)).flatMap fun s =>
      (BB.toList (sliderDests att s bd.occupancy cm PS &&& X)).map fun d => Move.capture s d) ∧
    IsStage bd.squares (cond f 14 13) ((BB.toList (sliders &&& ~~~PO)).flatMap fun s =>
      (BB.toList (sliderDests att s bd.occupancy cm PS &&& Y)).map fun d => Move.quiet s d) := by
  refine caps_quiets_isStage _ _ (fun s => sliderDests att s bd.occupancy cm PS) _ _ _ _ fun s d hs hd => ?_
  rw [mem_and, Bool.and_eq_true] at hs
  have hshape : Geo.diagMove s d = !f := by
    rw [mem_sliderDests, hatt, mem_sliderAttacks bd hc] at hd
    obtain ⟨⟨dir, hdir, hseen⟩, _⟩ := hd
    have hray := seen_sub hseen
    cases f
    · exact Geo.ray_diag_shape s dir hdir d hray
    · exact Geo.ray_card_shape s dir hdir d hray
  obtain ⟨kk, hkk, h⟩ : ∃ kk, (kk = .bishop ∨ kk = .rook ∨ kk = .queen) ∧ at' bd.squares s = some ⟨kk, p⟩ := by
    rcases hsl s hs.1 with h | h
    · exact ⟨_, by cases f <;> simp [famKind], h⟩
    · exact ⟨_, by simp, h⟩
  rw [stage_of _ (Move.capture s d) _ _ h, stage_of _ (Move.quiet s d) _ _ h]
  show stageCode _ _ (Geo.diagMove s d) _ = _ ∧ stageCode _ _ (Geo.diagMove s d) _ = _
  rw [hshape]
  rcases hkk with rfl | rfl | rfl <;> cases f <;> exact ⟨rfl, rfl⟩

theorem king_isStage (g : Game) (k : Sq) (hk : at' g.board.squares k = some ⟨.king, g.player⟩) (theirs all : BB) :
    IsStage g.board.squares 8 (Gen.kingCaptures g k theirs) ∧ IsStage g.board.squares 15 (Gen.kingQuiets g k all) :=
  ⟨opt_loop_isStage _ _ _ (Move.capture k) Move.dst 8 (fun _ => by split <;> simp) (fun _ => rfl)
      fun d => by rw [stage_of _ (Move.capture k d) _ _ hk]; rfl,
    opt_loop_isStage _ _ _ (Move.quiet k) Move.dst 15 (fun _ => by split <;> simp) (fun _ => rfl)
      fun d => by rw [stage_of _ (Move.quiet k d) _ _ hk]; rfl⟩

theorem singlePushes_isStage (bd : Board) (hc : Consistent bd) (p : Player) (cm op dp : BB) :
    IsStage bd.squares 10 (singlePushes p (bd.pawnsOf p) bd.occupancy cm op dp).flatten := by
  refine pushList_isStage _ _ _ _ _ 10 fun s hs =>
    ⟨isStage_singleton ?_, fun m hm => by rw [List.mem_singleton.1 hm]; rfl⟩
  have hf := canPushOnce_forward hs
  rw [mem_and, Bool.and_eq_true, mem_canPushOnce bd hc] at hs
  rw [stage_of _ (Move.quiet s _) .pawn p hs.1.1]
  show stageCode (some .pawn) .quiet _ (Geo.rankDist s (fwdD p s)) = 10
  rw [Geo.forward_rankDist hf]
  cases Geo.diagMove s (fwdD p s) <;> rfl

theorem doublePushes_isStage (bd : Board) (hc : Consistent bd) (p : Player) (cm op dp : BB) :
    IsStage bd.squares 11 (doublePushes p (bd.pawnsOf p) bd.occupancy cm op dp).flatten := by
  refine pushList_isStage _ _ _ _ _ 11 fun s hs =>
    ⟨isStage_singleton ?_, fun m hm => by rw [List.mem_singleton.1 hm]; rfl⟩
  obtain ⟨e1, e2⟩ := canPushTwice_forward hs
  rw [stage_of _ (Move.quiet s _) .pawn p ((mem_canPushTwice bd hc p cm dp e1 e2).1 hs).1]
  show stageCode (some .pawn) .quiet _ (Geo.rankDist s (fwdD p (fwdD p s))) = 11
  rw [Geo.double_rankDist e1 e2]
  cases Geo.diagMove s (fwdD p (fwdD p s)) <;> rfl

theorem castles_sub (g : Game) (all : BB) :
    (Gen.castles g all).Sublist [Move.castles (Game.kingStart g.player) (Gen.castleGeom true g.player).2.1,
      Move.castles (Game.kingStart g.player) (Gen.castleGeom false g.player).2.1] := by
  have one : ∀ ks (c : Bool), ((if c then Gen.castleFor g ks all else []) : List Move).Sublist
      [Move.castles (Game.kingStart g.player) (Gen.castleGeom ks g.player).2.1] := by
    intro ks c
    unfold Gen.castleFor
    generalize Gen.castleGeom ks g.player = geo
    repeat' split
    all_goals simp
  exact (one true _).append (one false _)

theorem castles_isStage (b : RBoard) (g : Game) (all : BB) : IsStage b 16 (Gen.castles g all) := by
  have hsub := castles_sub g all
  refine ⟨List.Nodup.sublist hsub ?_, fun m hm => (stage_of_flag b m).2 ?_⟩
  · have hne : ∀ p : Player, (Gen.castleGeom true p).2.1 ≠ (Gen.castleGeom false p).2.1 := by
      intro p; cases p <;> decide
    simpa using fun e => hne g.player (congrArg Move.dst e)
  · rcases List.mem_cons.1 (hsub.subset hm) with rfl | h
    · rfl
    · rw [List.mem_singleton.1 h]; rfl

theorem stages_isStage (T : SliderTables) (g : Game) (k : Sq) (c : Ctx g.board g.player k) (chk cm op dp : BB)
    (ep : List Move) (hep : Gen.pawnEnPassant g (g.board.pawnsOf g.player) k cm op dp = some ep) :
    ∀ p ∈ capStages g k cm op dp ep ++
        quietStages g k { checkers := chk, checkMask := cm, orthPins := op, diagPins := dp },
      IsStage g.board.squares p.1 p.2 := by
  have hc := c.cons
  have hD := slider_isStage g.board hc g.player false bishopAttacks T.bishop _
    (fun s => (mem_diagSliders g.board hc g.player s).1) cm op dp (g.board.occFor g.player.other) (~~~g.board.occupancy)
  have hO := slider_isStage g.board hc g.player true rookAttacks T.rook _
    (fun s => (mem_orthSliders g.board hc g.player s).1) cm dp op (g.board.occFor g.player.other) (~~~g.board.occupancy)
  have hK := king_isStage g k ((c.king k).2 rfl) (g.board.occFor g.player.other) g.board.occupancy
  simp only [capStages, quietStages, List.cons_append, List.nil_append, List.forall_mem_cons]
  refine ⟨promoCaps_isStage g.board hc g.player _ cm op dp,
    promoPushes_isStage g.board hc g.player [.queen] 2 (by decide)
      (fun pr hpr _ _ _ _ => by rw [List.mem_singleton.1 hpr]; rfl) cm op dp,
    plainCaps_isStage g.board hc g.player _ cm op dp,
    ep_isStage _ hep,
    (knight_isStage g.board hc g.player cm op dp).1,
    hD.1,
    hO.1,
    hK.1,
    promoPushes_isStage g.board hc g.player _ 9 (by decide)
      (fun pr hpr _ _ _ _ => by
        simp only [Gen.promoOrderQuietUnder, List.mem_cons, List.mem_nil_iff, or_false] at hpr
        rcases hpr with rfl | rfl | rfl <;> rfl) cm op dp,
    singlePushes_isStage g.board hc g.player cm op dp,
    doublePushes_isStage g.board hc g.player cm op dp,
    (knight_isStage g.board hc g.player cm op dp).2,
    hD.2,
    hO.2,
    hK.2,
    ?_, nofun⟩
  show IsStage _ 16 (if _ then _ else _)
  split
  · exact castles_isStage _ g _
  · exact isStage_nil _ 16

theorem stages_nodup (T : SliderTables) (g : Game) (k : Sq) (c : Ctx g.board g.player k) (chk cm op dp : BB)
    (ep : List Move) (hep : Gen.pawnEnPassant g (g.board.pawnsOf g.player) k cm op dp = some ep) :
    (flat (capStages g k cm op dp ep) ++
      flat (quietStages g k { checkers := chk, checkMask := cm, orthPins := op, diagPins := dp })).Nodup := by
  rw [← flat_append]
  refine nodup_flatten_keyed (stage g.board.squares) _ ?_ (stages_isStage T g k c chk cm op dp ep hep)
  simp only [capStages, quietStages, List.cons_append, List.nil_append, List.map_cons, List.map_nil]
  decide

theorem Run.nodup {g : Game} {k : Sq} (r : Run g k) (T : SliderTables) (c : Ctx g.board g.player k) :
    (r.caps ++ r.quiets).Nodup :=
  (stages_nodup T g k c _ r.cm r.op r.dp r.ep r.ep_eq).sublist (r.caps_sub.append r.quiets_sub)

theorem Run.quietish {g : Game} {k : Sq} (r : Run g k) (T : SliderTables) (c : Ctx g.board g.player k) :
    ∀ m ∈ r.quiets, m.isCapture = false ∧ m.flag ≠ .promoQ := by
  intro m hm
  obtain ⟨p, hp, hmp⟩ := (mem_flat _ m).1 (r.quiets_sub.subset hm)
  refine quietish_of_stage g.board.squares m ?_
  rw [(stages_isStage T g k c _ r.cm r.op r.dp r.ep r.ep_eq p (List.mem_append_right _ hp)).2 m hmp]
  exact quietStages_ge_nine g k _ p hp

theorem Run.loud {g : Game} {k : Sq} (r : Run g k) (T : SliderTables) (h : PosH g k) :
    (∀ m ∈ legalMoves (ofGame g), (m.isCapture = true ∨ m.flag = .promoQ) → m ∈ r.caps) ∧
      (∀ m ∈ r.caps, m ∈ legalMoves (ofGame g)) := by
  refine ⟨fun m hm hl => ?_, fun m hm => (r.mem_iff T h m).1 (List.mem_append_left _ hm)⟩
  refine (List.mem_append.1 ((r.mem_iff T h m).2 hm)).resolve_right fun hq => ?_
  obtain ⟨q1, q2⟩ := r.quietish T h.ctx m hq
  rcases hl with hl | hl
  · rw [q1] at hl; cases hl
  · exact q2 hl

theorem generate_nodup (T : SliderTables) (g : Game) (k : Sq) (h : PosH g k)
    (caps : List Move) (cache : MovegenCache) (quiets : List Move)
    (hcaps : generateCaptures g = some (caps, cache)) (hquiets : generateQuiets g cache = some quiets) :
    (caps ++ quiets).Nodup := by
  obtain ⟨r⟩ := generate_run T g k h
  obtain ⟨rfl, rfl⟩ := r.unique hcaps hquiets
  exact r.nodup T h.ctx

theorem quiets_quietish (T : SliderTables) (g : Game) (k : Sq) (h : PosH g k)
    (caps : List Move) (cache : MovegenCache) (quiets : List Move)
    (hcaps : generateCaptures g = some (caps, cache)) (hquiets : generateQuiets g cache = some quiets) :
    ∀ m ∈ quiets, m.isCapture = false ∧ m.flag ≠ .promoQ := by
  obtain ⟨r⟩ := generate_run T g k h
  obtain ⟨_, rfl⟩ := r.unique hcaps hquiets
  exact r.quietish T h.ctx

theorem loud_complete (T : SliderTables) (g : Game) (k : Sq) (hk : PosH g k) :
    ∃ caps cache quiets, generateCaptures g = some (caps, cache) ∧ generateQuiets g cache = some quiets ∧
      (∀ m ∈ legalMoves (ofGame g), (m.isCapture = true ∨ m.flag = .promoQ) → m ∈ caps) ∧
      (∀ m ∈ caps, m ∈ legalMoves (ofGame g)) := by
  obtain ⟨r⟩ := generate_run T g k hk
  exact ⟨r.caps, r.cache, r.quiets, r.caps_eq, r.quiets_eq, r.loud T hk⟩

end Tcheran
