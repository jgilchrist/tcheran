import TcheranVerif.Proofs.Pins
/-!
# What `get_pins` computes; legality of a plain move in terms of checkers and pins (C01)

A mask of `get_pins` holds the enemy sliders of one family on a ray from the king with nothing between, or exactly
one man and that man ours (`XR`), and the squares between (`PinLine`; `getPins_orth`, `getPins_diag` from
`pins_family`). A plain move is legal iff it answers every checker and every pin (`plain_legal_iff`).
-/

namespace Tcheran
open Board Geometry Rules

def XR (b : RBoard) (p : Player) (k q : Sq) : Prop :=
  (∀ y ∈ betweenList k q, occOf b y = false) ∨
  (∃ s ∈ betweenList k q, (∃ X, at' b s = some X ∧ X.player = p) ∧
    ∀ y ∈ betweenList k q, y = s ∨ occOf b y = false)

def SliderGeo (b : RBoard) (o : Player) (k1 : PieceKind) (dirs : List Dir) (k q : Sq) : Prop :=
  (at' b q = some ⟨k1, o⟩ ∨ at' b q = some ⟨.queen, o⟩) ∧ ∃ dir ∈ dirs, q ∈ ray dir k

theorem xr_iff {b : RBoard} {p : Player} {k q : Sq} {dir : Dir} (hq : q ∈ ray dir k) :
    XR b p k q ↔ ∀ y ∈ betweenList k q,
      occOf b y = false ∨ (Own b p y ∧ ∀ z ∈ betweenList k y, occOf b z = false) := by
  constructor
  · rintro (h | ⟨s, hs, hsown, h⟩) y hy
    · exact Or.inl (h y hy)
    · rcases h y hy with rfl | e
      · exact Or.inr ⟨hsown, fun z hz => (h z (Geo.betweenList_trans hy hz).1).resolve_left (Geo.betweenList_trans hy hz).2⟩
      · exact Or.inl e
  · intro h
    by_cases hocc : ∃ s ∈ betweenList k q, occOf b s = true
    · -- `s` is ours and the first man seen from `k`; another occupied `y` between would be a second first man
      obtain ⟨s, hs, hso⟩ := hocc
      have hfs := (h s hs).resolve_left (by simp [hso])
      refine Or.inr ⟨s, hs, hfs.1, fun y hy => ?_⟩
      by_cases hys : y = s
      · exact Or.inl hys
      · refine Or.inr (Bool.eq_false_iff.2 fun hyo => hys ?_)
        have hfy := (h y hy).resolve_left (by simp [hyo])
        exact Geo.first_unique (P := fun z => occOf b z = true) (Geo.betweenList_same_ray hq hs) (Geo.betweenList_same_ray hq hy)
          hso hyo (by simpa using hfs.2) (by simpa using hfy.2)
    · exact Or.inl fun y hy => Bool.eq_false_iff.2 fun ho => hocc ⟨y, hy, ho⟩

theorem mem_foldPins (king : Sq) (L : List Sq) (x : Sq) (acc : BB) :
    mem (L.foldl (fun acc p => acc ||| bb p ||| between king p) acc) x = true ↔
      (mem acc x = true ∨ ∃ p ∈ L, x = p ∨ x ∈ betweenList king p) := by
  induction L generalizing acc with
  | nil => simp
  | cons y ys ih =>
    rw [List.foldl_cons, ih, mem_or, mem_or, mem_bb, Bool.or_eq_true, Bool.or_eq_true, mem_between,
      decide_eq_true_eq]
    simp only [List.mem_cons, exists_eq_or_imp, or_assoc]

/-- the generic half of `get_pins`: one family of directions, one slider table -/
theorem pins_family (bd : Board) (hc : Consistent bd) (p : Player) (king : Sq) (dirs : List Dir)
    (hsub : ∀ d ∈ dirs, d ∈ Dir.all) (k1 : PieceKind)
    (att : Sq → BB → BB) (hatt : ∀ s occ, att s occ = slideSpec dirs s occ)
    (sliders : BB) (hsl : ∀ q, mem sliders q = true ↔
      (bd.pieceAt q = some ⟨k1, p.other⟩ ∨ bd.pieceAt q = some ⟨.queen, p.other⟩)) (x : Sq) :
    mem ((BB.toList (att king (bd.occupancy &&& ~~~(att king bd.occupancy &&& bd.occFor p)) &&& sliders)).foldl
        (fun acc q => acc ||| bb q ||| between king q) 0#64) x = true ↔
      ∃ q, SliderGeo bd.squares p.other k1 dirs king q ∧ XR bd.squares p king q ∧
        (x = q ∨ x ∈ betweenList king q) := by
  rw [mem_foldPins]
  simp only [mem_zero, Bool.false_eq_true, false_or, mem_toList, mem_and, Bool.and_eq_true]
  simp only [hatt, mem_slideSpec]
  have hocc := mem_occupancy bd hc
  -- emptiness under the reduced occupancy is the x-ray condition: the men taken off the occupancy are
  -- ours and the first seen from the king
  have hxr : ∀ (q : Sq) (dir : Dir), dir ∈ dirs → q ∈ ray dir king →
      ((∀ y ∈ betweenList king q,
          mem (bd.occupancy &&& ~~~(slideSpec dirs king bd.occupancy &&& bd.occFor p)) y = false) ↔
        XR bd.squares p king q) := by
    intro q dir hd hq
    rw [xr_iff hq]
    refine forall₂_congr fun y hy => ?_
    have hfirst : mem (slideSpec dirs king bd.occupancy) y = true ↔
        ∀ z ∈ betweenList king y, occOf bd.squares z = false := by
      simp only [mem_slideSpec, hocc]
      exact ⟨fun ⟨_, _, _, he⟩ => he, fun he => ⟨dir, hd, Geo.betweenList_same_ray hq hy, he⟩⟩
    rw [mem_and, mem_not, mem_and, hocc y, ← mem_occFor bd hc p y, ← hfirst]
    cases occOf bd.squares y <;> cases mem (slideSpec dirs king bd.occupancy) y <;> cases mem (bd.occFor p) y <;> simp
  constructor
  · rintro ⟨q, ⟨⟨dir, hd, hq, he⟩, hq2⟩, hx⟩
    exact ⟨q, ⟨(hsl q).1 hq2, dir, hd, hq⟩, (hxr q dir hd hq).1 he, hx⟩
  · rintro ⟨q, ⟨hk, dir, hd, hq⟩, hx, hm⟩
    exact ⟨q, ⟨⟨dir, hd, hq, (hxr q dir hd hq).2 hx⟩, (hsl q).2 hk⟩, hm⟩

def Through (b : RBoard) (s k q : Sq) : Prop := ∀ y ∈ betweenList k q, y = s ∨ occOf b y = false

/-- every enemy man that would attack `k` with `s` lifted is captured on `d` or blocked by `d` -/
def PinOK (b : RBoard) (o : Player) (k s d : Sq) : Prop :=
  ∀ q, Geo b o q k → s ∈ betweenList k q → Through b s k q → (q = d ∨ d ∈ betweenList k q)

def CheckOK (b : RBoard) (o : Player) (k d : Sq) : Prop :=
  ∀ c, AttacksFrom b o c k → (c = d ∨ d ∈ betweenList k c)

theorem plain_legal_iff (b b' : RBoard) (p : Player) (k s d : Sq) (h : PlainStep b b' p s d)
    (hsk : s ≠ k) (hdk : d ≠ k) :
    attacked b' p.other k = false ↔ (CheckOK b p.other k d ∧ PinOK b p.other k s d) := by
  rw [← Bool.not_eq_true, plain_attacked_iff b b' p k s d h]
  simp only [not_exists, not_and]
  constructor
  · intro hn
    have key : ∀ q, Geo b p.other q k → Through b s k q → q = d ∨ d ∈ betweenList k q := fun q hg ht =>
      Decidable.byContradiction fun hc => hn q hg (fun e => hc (Or.inl e)) (fun e => hc (Or.inr e)) ht
    refine ⟨fun c hc => ?_, fun q hg _ ht => key q hg ht⟩
    obtain ⟨hg, he⟩ := (attacksFrom_iff_geo b p.other c k).1 hc
    exact key c hg fun x hx => Or.inr (he x hx)
  · rintro ⟨hck, hpin⟩ q hg h1 h2 ht
    by_cases hs : s ∈ betweenList k q
    · exact (hpin q hg hs ht).elim h1 h2
    · -- `s` is not in the way: `q` is a checker
      have hall : ∀ x ∈ betweenList k q, occOf b x = false :=
        fun x hx => (ht x hx).resolve_left fun e => hs (e ▸ hx)
      exact (hck q ((attacksFrom_iff_geo b p.other q k).2 ⟨hg, hall⟩)).elim h1 h2

/-- the slider that is not a queen of family `fam c` -/
def famKind : Bool → PieceKind
  | true => .rook
  | false => .bishop

theorem SliderGeo.own {b : RBoard} {o : Player} {k1 : PieceKind} {F : List Dir} {k q : Sq}
    (h : SliderGeo b o k1 F k q) : Own b o q := by
  obtain ⟨a | a, _⟩ := h
  · exact ⟨_, a, rfl⟩
  · exact ⟨_, a, rfl⟩

theorem SliderGeo.geo {b : RBoard} {o : Player} {c : Bool} {k q : Sq}
    (h : SliderGeo b o (famKind c) (fam c) k q) : Geo b o q k := by
  obtain ⟨a, h⟩ := h
  cases c
  · rcases a with a | a
    · exact ⟨_, a, Or.inr (Or.inr (Or.inr (Or.inl ⟨Or.inl rfl, h⟩)))⟩
    · exact ⟨_, a, Or.inr (Or.inr (Or.inr (Or.inl ⟨Or.inr rfl, h⟩)))⟩
  · rcases a with a | a
    · exact ⟨_, a, Or.inr (Or.inr (Or.inr (Or.inr ⟨Or.inl rfl, h⟩)))⟩
    · exact ⟨_, a, Or.inr (Or.inr (Or.inr (Or.inr ⟨Or.inr rfl, h⟩)))⟩

theorem geo_split {b : RBoard} {o : Player} {q k : Sq} (h : Geo b o q k) :
    betweenList k q = [] ∨ ∃ c, SliderGeo b o (famKind c) (fam c) k q := by
  obtain ⟨kk, a, h⟩ := h
  rcases h with ⟨_, h⟩ | ⟨_, d, hd, h⟩ | ⟨_, d, hd, h⟩ | ⟨hk, h⟩ | ⟨hk, h⟩
  · exact Or.inl (pawn_between h)
  · exact Or.inl (Geo.betweenList_knight hd h)
  · exact Or.inl (Geo.betweenList_king hd h)
  · exact Or.inr ⟨false, by rcases hk with rfl | rfl; exact Or.inl a; exact Or.inr a, h⟩
  · exact Or.inr ⟨true, by rcases hk with rfl | rfl; exact Or.inl a; exact Or.inr a, h⟩

/-- the meaning of the two masks of `get_pins` (`getPins_orth`, `getPins_diag`) -/
def PinLine (b : RBoard) (p : Player) (k : Sq) (c : Bool) (x : Sq) : Prop :=
  ∃ q, SliderGeo b p.other (famKind c) (fam c) k q ∧ XR b p k q ∧ (x = q ∨ x ∈ betweenList k q)

theorem getPins_orth (T : SliderTables) (bd : Board) (hc : Consistent bd) (p : Player) (k x : Sq) :
    mem (getPins bd p k).1 x = true ↔ PinLine bd.squares p k true x :=
  pins_family bd hc p k Dir.cardinal (fun d _ => dir_mem_all d) .rook rookAttacks T.rook _
    (mem_orthSliders bd hc p.other) x

theorem getPins_diag (T : SliderTables) (bd : Board) (hc : Consistent bd) (p : Player) (k x : Sq) :
    mem (getPins bd p k).2 x = true ↔ PinLine bd.squares p k false x :=
  pins_family bd hc p k Dir.diagonal (fun d _ => dir_mem_all d) .bishop bishopAttacks T.bishop _
    (mem_diagSliders bd hc p.other) x

theorem through_of_xr {b : RBoard} {p : Player} {k q s : Sq} (hs : Own b p s)
    (hm : s ∈ betweenList k q) (hx : XR b p k q) : Through b s k q := by
  rcases hx with hx | ⟨s', hs', _, hx⟩
  · have := hx s hm
    rw [Own.occ hs] at this; cases this
  · intro y hy
    rcases hx s hm with e | e
    · subst e; exact hx y hy
    · rw [Own.occ hs] at e; cases e

theorem pinLine_own {b : RBoard} {p : Player} {k s : Sq} {c : Bool} (hs : Own b p s) :
    PinLine b p k c s ↔
      ∃ q, SliderGeo b p.other (famKind c) (fam c) k q ∧ s ∈ betweenList k q ∧ Through b s k q := by
  constructor
  · rintro ⟨q, hq, hx, hsq⟩
    have hsb : s ∈ betweenList k q := hsq.resolve_left (hs.ne_other hq.own)
    exact ⟨q, hq, hsb, through_of_xr hs hsb hx⟩
  · rintro ⟨q, hq, hsb, ht⟩
    exact ⟨q, hq, Or.inr ⟨s, hsb, hs, ht⟩, Or.inr hsb⟩

/-- only sliders can pin -/
theorem pinOK_iff {b : RBoard} {p : Player} {k s d : Sq} :
    PinOK b p.other k s d ↔ ∀ c q, SliderGeo b p.other (famKind c) (fam c) k q → s ∈ betweenList k q →
      Through b s k q → (q = d ∨ d ∈ betweenList k q) := by
  constructor
  · intro h c q hq; exact h q hq.geo
  · intro h q hg hsb ht
    rcases geo_split hg with h0 | ⟨c, hq⟩
    · rw [h0] at hsb; cases hsb
    · exact h c q hq hsb ht

theorem XR.no_enemy {b : RBoard} {p : Player} {k q y : Sq} (hx : XR b p k q) (hy : y ∈ betweenList k q) :
    ¬ Own b p.other y := by
  intro ho
  rcases hx with hx | ⟨s', _, hs', hx⟩
  · have := hx y hy; rw [ho.occ] at this; cases this
  · rcases hx y hy with e | e
    · exact Own.ne_other hs' ho e.symm
    · rw [ho.occ] at e; cases e

/-- the hypothesis is what `PinOK` concludes of a target square -/
theorem seg_ray {k q d : Sq} {dir : Dir} (hq : q ∈ ray dir k) (h : q = d ∨ d ∈ betweenList k q) :
    d ∈ ray dir k := by
  rcases h with e | e
  · exact e ▸ hq
  · exact Geo.betweenList_same_ray hq e

/-- `hking` serves only to exclude that the empty path from `s` to `d` passes over the king's square -/
theorem pinOK_slide (b : RBoard) (p : Player) (k s d : Sq) (hking : occOf b k = true) (hs : Own b p s)
    (c : Bool) (dir2 : Dir) (hdir2 : dir2 ∈ fam c) (hd : d ∈ ray dir2 s)
    (hpath : ∀ x ∈ betweenList s d, occOf b x = false) :
    PinOK b p.other k s d ↔ (¬ PinLine b p k (!c) s ∧ (PinLine b p k c s → PinLine b p k c d)) := by
  rw [pinOK_iff]
  constructor
  · intro hpin
    constructor
    · -- staying on a line of the other family would need a direction of that family
      rw [pinLine_own hs]
      rintro ⟨q, hq, hsb, ht⟩
      obtain ⟨dirO, hdO, hqO⟩ := hq.2
      have := Geo.same_ray_family (Geo.betweenList_same_ray hqO hsb) (seg_ray hqO (hpin _ q hq hsb ht)) hd hdir2 hdO
      cases c <;> cases this
    · rw [pinLine_own hs]
      rintro ⟨q, hq, hsb, ht⟩
      exact ⟨q, hq, Or.inr ⟨s, hsb, hs, ht⟩, (hpin c q hq hsb ht).imp Eq.symm id⟩
  · rintro ⟨hno, himp⟩ c' q hq hsb ht
    have hPs : PinLine b p k c' s := (pinLine_own hs).2 ⟨q, hq, hsb, ht⟩
    by_cases hcc : c' = c
    · subst hcc
      obtain ⟨q', hq', hx', hdq'⟩ := himp hPs
      obtain ⟨dir, hdF, hqr⟩ := hq.2
      obtain ⟨dir', hdF', hqr'⟩ := hq'.2
      by_cases hdd : dir = dir'
      · -- same ray: the same pinner
        subst hdd
        have : q' = q := Geo.first_unique (P := Own b p.other) hqr hqr' hq.own hq'.own
          (fun y => XR.no_enemy (Or.inr ⟨s, hsb, hs, ht⟩)) (fun y => hx'.no_enemy)
        exact this ▸ hdq'.imp Eq.symm id
      · -- another ray of the family: the move would pass over the king
        exfalso
        have := Geo.cross_ray hdF hdF' hdir2 hdd (Geo.betweenList_same_ray hqr hsb)
          (seg_ray hqr' (hdq'.imp Eq.symm id)) hd
        rw [hpath k this] at hking; cases hking
    · have : c' = !c := by cases c <;> cases c' <;> simp_all
      exact absurd (this ▸ hPs) hno

theorem pinOK_knight (b : RBoard) (p : Player) (k s d : Sq) (hs : Own b p s)
    (δ : Int × Int) (hδ : δ ∈ knightDeltas) (ho : offset s δ.1 δ.2 = some d) :
    PinOK b p.other k s d ↔ ∀ c, ¬ PinLine b p k c s := by
  rw [pinOK_iff]
  simp only [pinLine_own hs, not_exists, not_and]
  constructor
  · intro hpin c q hq hsb ht
    obtain ⟨dir, hdF, hqr⟩ := hq.2
    exact Geo.same_ray_no_knight (Geo.betweenList_same_ray hqr hsb) hδ ho
      (seg_ray hqr (hpin c q hq hsb ht))
  · intro h c q hq hsb ht
    exact absurd ht (h c q hq hsb)

/-- `pinOK_slide` with the two pin masks in place of `PinLine` -/
theorem pin_generic (b : RBoard) (p : Player) (k s d : Sq) (hking : occOf b k = true)
    (hsown : ∃ X, at' b s = some X ∧ X.player = p)
    (F Fo : List Dir) (kF kFo : PieceKind)
    (hfam : (F = Dir.cardinal ∧ Fo = Dir.diagonal ∧ kF = .rook ∧ kFo = .bishop) ∨
            (F = Dir.diagonal ∧ Fo = Dir.cardinal ∧ kF = .bishop ∧ kFo = .rook))
    (PS PO : BB)
    (hPS : ∀ x, mem PS x = true ↔ ∃ q, SliderGeo b p.other kF F k q ∧ XR b p k q ∧ (x = q ∨ x ∈ betweenList k q))
    (hPO : ∀ x, mem PO x = true ↔ ∃ q, SliderGeo b p.other kFo Fo k q ∧ XR b p k q ∧ (x = q ∨ x ∈ betweenList k q))
    (dir2 : Dir) (hdir2 : dir2 ∈ F) (hd : d ∈ ray dir2 s) (hpath : ∀ x ∈ betweenList s d, occOf b x = false) :
    PinOK b p.other k s d ↔ (mem PO s = false ∧ (mem PS s = true → mem PS d = true)) := by
  rcases hfam with ⟨rfl, rfl, rfl, rfl⟩ | ⟨rfl, rfl, rfl, rfl⟩
  · rw [pinOK_slide b p k s d hking hsown true dir2 hdir2 hd hpath, not_mem_iff (hPO s), hPS, hPS]; rfl
  · rw [pinOK_slide b p k s d hking hsown false dir2 hdir2 hd hpath, not_mem_iff (hPO s), hPS, hPS]; rfl

/-- `pinOK_knight` with the two pin masks in place of `PinLine` -/
theorem pin_knight (b : RBoard) (p : Player) (k s d : Sq)
    (hsown : ∃ X, at' b s = some X ∧ X.player = p) (PD PR : BB)
    (hPD : ∀ x, mem PD x = true ↔ ∃ q, SliderGeo b p.other .bishop Dir.diagonal k q ∧ XR b p k q ∧
      (x = q ∨ x ∈ betweenList k q))
    (hPR : ∀ x, mem PR x = true ↔ ∃ q, SliderGeo b p.other .rook Dir.cardinal k q ∧ XR b p k q ∧
      (x = q ∨ x ∈ betweenList k q))
    (δ : Int × Int) (hδ : δ ∈ knightDeltas) (ho : offset s δ.1 δ.2 = some d) :
    PinOK b p.other k s d ↔ (mem PR s = false ∧ mem PD s = false) := by
  rw [pinOK_knight b p k s d hsown δ hδ ho, not_mem_iff (hPR s), not_mem_iff (hPD s)]
  exact ⟨fun h => ⟨h true, h false⟩, fun h c => by cases c; exact h.2; exact h.1⟩

end Tcheran
