import TcheranVerif.Model.San
import TcheranVerif.Proofs.TextPrim
/-!
# Reading back the SAN text the writer produced returns the move (C18)

`parse_format` assumes `WF c mv`: the facts about the legal-move list that the rules of chess guarantee
(`Proofs/SanLegal.lean` derives them for the legal moves of a legal position).  `format_injective` follows from it.

Reader and writer are each characterised once. `parseSource_eq` states `parse_source_square` on the legal list
itself (`cand`), and `parse_shaped` runs the reader over any text of the shape source part, `x`?, destination,
`=P`?, `+`?, leaving the source to resolve and the move to match. `format_chars` gives the writer's
text as a list of characters of that shape. What joins them is `parseSource_text`: the source part the writer
chose resolves to the mover's square. The writer's disambiguation is used through its two equations,
`requiredAmbiguity_pawn_king` and `requiredAmbiguity_piece`.
-/

namespace Tcheran
namespace San

theorem splitOnce_mid (a b : List Char) (ch : Char) (ha : ch ∉ a) :
    splitOnce (a ++ ch :: b) ch = some (a, b) := by
  unfold splitOnce
  have hc : (a ++ ch :: b).contains ch = true := by simp
  rw [if_pos hc]
  have hall : ∀ y ∈ a, (y != ch) = true := by
    intro y hy
    simp only [bne_iff_ne, ne_eq]
    intro e; subst e; exact ha hy
  rw [takeWhile_stop hall (stopsAt_cons.2 (by simp)), dropWhile_stop hall (stopsAt_cons.2 (by simp))]
  rfl

theorem splitOnce_none (l : List Char) (ch : Char) (h : ch ∉ l) : splitOnce l ch = none := by
  unfold splitOnce
  rw [if_neg (by simpa using h)]

theorem dropSuffix_stop (l s : List Char) (x ch : Char) (hs : ∀ c ∈ s, c = ch) (hx : x ≠ ch) :
    dropSuffixChars (l ++ [x] ++ s) ch = l ++ [x] := by
  have hstop : StopsAt (· == ch) (l ++ [x]).reverse := by
    rw [List.reverse_append]
    exact stopsAt_cons.2 (by simpa using hx)
  unfold dropSuffixChars
  rw [List.reverse_append, dropWhile_stop (by simpa using hs) hstop, List.reverse_reverse]

/-- the writer uses it for every kind but the pawn (`pieceLetter_toList`) -/
def kindChar : PieceKind → Char
  | .pawn => 'P' | .knight => 'N' | .bishop => 'B' | .rook => 'R' | .queen => 'Q' | .king => 'K'

def promoChar : Promo → Char
  | .knight => 'N' | .bishop => 'B' | .rook => 'R' | .queen => 'Q'

theorem pieceLetter_toList (k : PieceKind) (h : k ≠ .pawn) : (pieceLetter k).toList = [kindChar k] := by
  cases k <;> first | exact absurd rfl h | decide

theorem promoLetter_toList (p : Promo) : (promoLetter p).toList = [promoChar p] := by
  cases p <;> decide

/-- the characters the reader strips, splits at or recognises castling by -/
def seps : List Char := ['+', '#', '=', 'x', 'O', '-']

def plain (ch : Char) : Bool := !seps.contains ch

theorem plain_ne {ch : Char} (h : plain ch = true) : ∀ s ∈ seps, ch ≠ s := by
  intro s hs e
  subst e
  simp [plain, hs] at h

theorem plain_file (s : Sq) : plain (fileChar s.file) = true :=
  (by decide : ∀ f : Fin 8, plain (fileChar f) = true) ⟨_, s.file_lt⟩
theorem plain_rank (s : Sq) : plain (rankChar s.rank) = true :=
  (by decide : ∀ r : Fin 8, plain (rankChar r) = true) ⟨_, s.rank_lt⟩
theorem plain_kind (k : PieceKind) : plain (kindChar k) = true := by cases k <;> decide
theorem plain_promo (p : Promo) : plain (promoChar p) = true := by cases p <;> decide

theorem parseFile_fileChar (s : Sq) : parseFile? (fileChar s.file) = some s.file :=
  (by decide : ∀ f : Fin 8, parseFile? (fileChar f) = some f.val) ⟨_, s.file_lt⟩
theorem parseRank_rankChar (s : Sq) : parseRank? (rankChar s.rank) = some s.rank :=
  (by decide : ∀ r : Fin 8, parseRank? (rankChar r) = some r.val) ⟨_, s.rank_lt⟩
theorem parseFile_rankChar (s : Sq) : parseFile? (rankChar s.rank) = none :=
  (by decide : ∀ r : Fin 8, parseFile? (rankChar r) = none) ⟨_, s.rank_lt⟩
theorem parsePiece_fileChar (s : Sq) : parsePiece? (fileChar s.file) = none :=
  (by decide : ∀ f : Fin 8, parsePiece? (fileChar f) = none) ⟨_, s.file_lt⟩
theorem parsePiece_kindChar (k : PieceKind) : parsePiece? (kindChar k) = some k := by cases k <;> decide

theorem byteSize_two (s : Sq) : (String.ofList [fileChar s.file, rankChar s.rank]).utf8ByteSize = 2 :=
  (by decide : ∀ f r : Fin 8, (String.ofList [fileChar f, rankChar r]).utf8ByteSize = 2) ⟨_, s.file_lt⟩ ⟨_, s.rank_lt⟩

/-- what the SAN code relies on about the legal-move list, relative to the move being written -/
structure WF (c : Ctx) (mv : Move) : Prop where
  nodup : c.legal.Nodup
  mem : mv ∈ c.legal
  kinds : ∀ m ∈ c.legal, (c.kindAt m.src).isSome = true
  key : ∀ m ∈ c.legal, m.src = mv.src → m.dst = mv.dst → m.promotion = mv.promotion → m = mv
  noPromo : ∀ m ∈ c.legal, ∀ k, c.kindAt m.src = some k → k ≠ .pawn → m.promotion = none
  pawnPush : c.kindAt mv.src = some .pawn → mv.isCapture = false →
    ∀ m ∈ c.legal, c.kindAt m.src = some .pawn → m.dst = mv.dst → m.src = mv.src
  pawnCap : c.kindAt mv.src = some .pawn → mv.isCapture = true →
    ∀ m ∈ c.legal, c.kindAt m.src = some .pawn → m.dst = mv.dst → m.src.file = mv.src.file → m.src = mv.src
  /-- there is one king -/
  king : c.kindAt mv.src = some .king →
    ∀ m ∈ c.legal, c.kindAt m.src = some .king → m.dst = mv.dst → m.src = mv.src

theorem expectMatching_of_key (c : Ctx) (mv : Move) (h : WF c mv) :
    expectMatching c mv.src mv.dst mv.promotion = .ok mv := by
  unfold expectMatching
  rw [find?_unique h.mem (decide_eq_true ⟨rfl, rfl, rfl⟩) fun m hm hp =>
    have hp := of_decide_eq_true hp
    h.key m hm hp.1 hp.2.1 hp.2.2]

theorem dedup_const (l : List Sq) (s : Sq) (h : ∀ x ∈ l, x = s) (hne : l ≠ []) : dedup l = [s] := by
  have fold : ∀ l : List Sq, (∀ x ∈ l, x = s) →
      l.foldl (fun acc s => if acc.contains s then acc else acc ++ [s]) [s] = [s] := by
    intro l
    induction l with
    | nil => intro _; rfl
    | cons x xs ih =>
      intro hall
      obtain rfl := hall x List.mem_cons_self
      simpa using ih fun y hy => hall y (List.mem_cons_of_mem _ hy)
  cases l with
  | nil => exact absurd rfl hne
  | cons x xs =>
    obtain rfl := h x List.mem_cons_self
    exact fold xs fun y hy => h y (List.mem_cons_of_mem _ hy)

def cand (c : Ctx) (k : PieceKind) (dst : Sq) (res : Resolution) : List Sq :=
  (c.legal.filter fun m => c.kindAt m.src = some k ∧ m.dst = dst ∧ res.satisfied m).map (·.src)

theorem mem_cand {c : Ctx} {k : PieceKind} {dst : Sq} {res : Resolution} {s : Sq} :
    s ∈ cand c k dst res ↔ ∃ m ∈ c.legal, c.kindAt m.src = some k ∧ m.dst = dst ∧ res.satisfied m = true ∧ m.src = s := by
  simp only [cand, List.mem_map, List.mem_filter, decide_eq_true_eq, and_assoc]

/-- `assert_eq!(len, 1)` -/
def uniq : List Sq → SrcResult
  | [s] => .ok s
  | _ => .panic

theorem kinded_cand (c : Ctx) (k : PieceKind) (dst : Sq) (res : Resolution) :
    ((c.legal.filterMap fun m => (c.kindAt m.src).map fun k => (k, m)).filter
      fun (k', m) => k' = k ∧ m.dst = dst ∧ res.satisfied m).map (·.2.src) = cand c k dst res := by
  unfold cand
  generalize c.legal = l
  induction l with
  | nil => rfl
  | cons x xs ih =>
    rw [List.filterMap_cons, List.filter_cons]
    cases hk : c.kindAt x.src with
    | none => rw [if_neg (by simp)]; exact ih
    | some k' =>
      simp only [Option.map_some, List.filter_cons, Option.some.injEq]
      by_cases hp : k' = k ∧ x.dst = dst ∧ res.satisfied x = true
      · rw [if_pos (decide_eq_true hp), if_pos (decide_eq_true hp), List.map_cons, List.map_cons, ih]
      · rw [if_neg (by simpa using hp), if_neg (by simpa using hp)]; exact ih

theorem kinded_length (c : Ctx) (h : ∀ m ∈ c.legal, (c.kindAt m.src).isSome = true) :
    (c.legal.filterMap fun m => (c.kindAt m.src).map fun k => (k, m)).length = c.legal.length := by
  generalize c.legal = l at h
  induction l with
  | nil => rfl
  | cons x xs ih =>
    obtain ⟨k, hk⟩ := Option.isSome_iff_exists.1 (h x List.mem_cons_self)
    simp [hk, ih fun m hm => h m (List.mem_cons_of_mem _ hm)]

theorem parseSource_eq (c : Ctx) (h : ∀ m ∈ c.legal, (c.kindAt m.src).isSome = true) (src : List Char) (dst : Sq) :
    parseSource c src dst =
      match src.head?.bind parsePiece? with
      | some pk => match parseResolution src.tail with
        | none => .err
        | some res => uniq (cand c pk dst res)
      | none => match parseResolution src with
        | none => .err
        | some res => uniq (dedup (cand c .pawn dst res)) := by
  have h0 := kinded_cand c .pawn dst .none
  simp only [Resolution.satisfied, and_true] at h0
  unfold parseSource
  simp only [kinded_length c h, ne_eq, not_true_eq_false, if_false, kinded_cand, h0]
  cases src with
  | nil => rfl
  | cons first rest => cases parsePiece? first <;> rfl

def identL (k : PieceKind) (mv : Move) : List Char :=
  match k with
  | .pawn => if mv.isCapture then [fileChar mv.src.file] else []
  | k => [kindChar k]

def ambL (amb : Ambiguity) (mv : Move) : List Char :=
  match amb with
  | .none => [] | .file => [fileChar mv.src.file] | .rank => [rankChar mv.src.rank]
  | .exact => [fileChar mv.src.file, rankChar mv.src.rank]

def xL (capture : Bool) : List Char := if capture then ['x'] else []
def dstL (dst : Sq) : List Char := [fileChar dst.file, rankChar dst.rank]
def promoL : Option Promo → List Char
  | some p => ['=', promoChar p]
  | none => []
def checkL (check : Bool) : List Char := if check then ['+'] else []

theorem checkL_toList (chk : Bool) : (if chk = true then "+" else "").toList = checkL chk := by
  cases chk <;> rfl

theorem format_chars (c : Ctx) (mv : Move) (t : String) (h : format c mv = some t) :
    ∃ k, c.kindAt mv.src = some k ∧
      (((k = .king ∧ mv.src = Game.kingStart c.player ∧ mv.dst = Game.kingsideCastleDest c.player) ∧
          t.toList = ['O', '-', 'O'] ++ checkL (c.givesCheck mv)) ∨
       ((k = .king ∧ mv.src = Game.kingStart c.player ∧ mv.dst = Game.queensideCastleDest c.player) ∧
          t.toList = ['O', '-', 'O', '-', 'O'] ++ checkL (c.givesCheck mv)) ∨
       (∃ amb, requiredAmbiguity c mv = some amb ∧
          t.toList = identL k mv ++ ambL amb mv ++ xL mv.isCapture ++ dstL mv.dst ++ promoL mv.promotion ++
            checkL (c.givesCheck mv))) := by
  unfold format at h
  cases hk : c.kindAt mv.src with
  | none => rw [hk] at h; cases h
  | some k =>
    refine ⟨k, rfl, ?_⟩
    rw [hk] at h
    simp only [bind, Option.bind, pure] at h
    split at h
    · rename_i h1
      refine .inl ⟨h1, ?_⟩
      rw [← Option.some.inj h, String.toList_append, checkL_toList]
      rfl
    · split at h
      · rename_i h2
        refine .inr (.inl ⟨h2, ?_⟩)
        rw [← Option.some.inj h, String.toList_append, checkL_toList]
        rfl
      · cases ha : requiredAmbiguity c mv with
        | none => rw [ha] at h; cases h
        | some amb =>
          refine .inr (.inr ⟨amb, rfl, ?_⟩)
          rw [ha] at h
          rw [← Option.some.inj h]
          simp only [String.toList_append, checkL_toList]
          -- the parts of the text one at a time; `congr` would compare the strings themselves, which is slow
          refine congrArg (· ++ _) (append_congr (append_congr (append_congr (append_congr ?_ ?_) ?_) ?_) ?_)
          · cases k with
            | pawn => simp only [identL]; split <;> simp [fileStr]
            | _ => exact pieceLetter_toList _ (by decide)
          · cases amb <;> simp [ambL, fileStr, rankStr, Sq.notation]
          · unfold xL; split <;> rfl
          · exact Sq.notation_toList _
          · unfold promoL; cases mv.promotion <;> simp [promoLetter_toList]

def resOf (amb : Ambiguity) (mv : Move) : Resolution :=
  match amb with
  | .none => .none | .file => .file mv.src.file | .rank => .rank mv.src.rank
  | .exact => .exact mv.src.file mv.src.rank

theorem parseResolution_ambL (amb : Ambiguity) (mv : Move) :
    parseResolution (ambL amb mv) = some (resOf amb mv) := by
  cases amb <;> simp [ambL, resOf, parseResolution, parseFile_fileChar, parseRank_rankChar, parseFile_rankChar]

theorem resOf_self (amb : Ambiguity) (mv : Move) : (resOf amb mv).satisfied mv = true := by
  cases amb <;> simp [resOf, Resolution.satisfied]

theorem requiredAmbiguity_pawn_king (c : Ctx) (mv : Move) (k : PieceKind) (hk : c.kindAt mv.src = some k)
    (h : k = .pawn ∨ k = .king) : requiredAmbiguity c mv = some .none := by
  unfold requiredAmbiguity
  simp only [hk]
  rw [if_pos h]

theorem requiredAmbiguity_piece (c : Ctx) (mv : Move) (k : PieceKind) (hk : c.kindAt mv.src = some k)
    (hnp : k ≠ .pawn) (hnk : k ≠ .king) :
    let cands := c.legal.filter fun m => m.dst = mv.dst ∧ c.kindAt m.src = some k ∧ m ≠ mv
    requiredAmbiguity c mv = some (
      if cands.isEmpty then .none
      else if !(cands.any fun m => m.src.file = mv.src.file) then .file
      else if !(cands.any fun m => m.src.rank = mv.src.rank) then .rank
      else .exact) := by
  unfold requiredAmbiguity
  simp only [hk]
  rw [if_neg (by simp [hnp, hnk])]
  split
  · rfl
  · cases h1 : (List.filter (fun m => decide (m.dst = mv.dst ∧ c.kindAt m.src = some k ∧ m ≠ mv)) c.legal).any
        (fun m => decide (m.src.file = mv.src.file)) <;>
    cases h2 : (List.filter (fun m => decide (m.dst = mv.dst ∧ c.kindAt m.src = some k ∧ m ≠ mv)) c.legal).any
        (fun m => decide (m.src.rank = mv.src.rank)) <;> simp

theorem amb_unique (c : Ctx) (mv : Move) (k : PieceKind) (amb : Ambiguity) (h : WF c mv)
    (hk : c.kindAt mv.src = some k) (hnp : k ≠ .pawn) (ha : requiredAmbiguity c mv = some amb)
    (x : Move) (hx : x ∈ c.legal) (hxk : c.kindAt x.src = some k) (hxd : x.dst = mv.dst)
    (hs : (resOf amb mv).satisfied x = true) : x = mv := by
  have same_src : x.src = mv.src → x = mv := fun e =>
    h.key x hx e hxd (by rw [h.noPromo x hx k hxk hnp, h.noPromo mv h.mem k hk hnp])
  by_cases hking : k = .king
  · subst hking
    exact same_src (h.king hk x hx hxk hxd)
  · -- were `x` another move it would be one of the rivals the writer looked at, and each answer of
    -- `requiredAmbiguity_piece` says of the rivals what `x`, meeting the resolution, contradicts
    apply Classical.byContradiction
    intro hne
    have hxc : x ∈ c.legal.filter (fun m => decide (m.dst = mv.dst ∧ c.kindAt m.src = some k ∧ m ≠ mv)) :=
      List.mem_filter.2 ⟨hx, by simp [hxd, hxk, hne]⟩
    have hamb := requiredAmbiguity_piece c mv k hk hnp hking
    simp only [ha, Option.some.injEq] at hamb
    subst hamb
    generalize c.legal.filter _ = rivals at hs hxc
    have none_on : ∀ q : Move → Bool, (!rivals.any q) = true → ¬ q x = true := fun q hq =>
      List.any_eq_false.1 (by simpa using hq) x hxc
    split at hs
    next he => exact absurd hxc (by rw [List.isEmpty_iff.1 he]; exact List.not_mem_nil)
    split at hs
    next hf => exact none_on _ hf (by simpa [resOf, Resolution.satisfied] using hs)
    split at hs
    next hr => exact none_on _ hr (by simpa [resOf, Resolution.satisfied] using hs)
    simp only [resOf, Resolution.satisfied, Bool.and_eq_true, beq_iff_eq] at hs
    exact hne (same_src (Sq.ext_fr hs.1 hs.2))

theorem cand_piece (c : Ctx) (mv : Move) (k : PieceKind) (amb : Ambiguity) (h : WF c mv)
    (hk : c.kindAt mv.src = some k) (hnp : k ≠ .pawn) (ha : requiredAmbiguity c mv = some amb) :
    cand c k mv.dst (resOf amb mv) = [mv.src] := by
  unfold cand
  rw [filter_singleton_of_unique c.legal _ mv h.nodup h.mem (decide_eq_true ⟨hk, rfl, resOf_self amb mv⟩)]
  · rfl
  · intro x hx hq
    have hq := of_decide_eq_true hq
    exact amb_unique c mv k amb h hk hnp ha x hx hq.1 hq.2.1 hq.2.2

/-- what the reader makes of a pawn's source text -/
def pawnRes (mv : Move) : Resolution := if mv.isCapture then .file mv.src.file else .none

/-- pawns may come from several squares, all the same one (`WF.pawnPush`, `WF.pawnCap`) -/
theorem cand_pawn (c : Ctx) (mv : Move) (h : WF c mv) (hk : c.kindAt mv.src = some .pawn) :
    dedup (cand c .pawn mv.dst (pawnRes mv)) = [mv.src] := by
  have hself : (pawnRes mv).satisfied mv = true := by unfold pawnRes; split <;> simp [Resolution.satisfied]
  apply dedup_const
  · intro s hs
    obtain ⟨m, hm, hmk, hmd, hres, rfl⟩ := mem_cand.1 hs
    unfold pawnRes at hres
    by_cases hc : mv.isCapture = true
    · rw [if_pos hc] at hres
      exact h.pawnCap hk hc m hm hmk hmd (by simpa [Resolution.satisfied] using hres)
    · exact h.pawnPush hk (by simpa using hc) m hm hmk hmd
  · intro hnil
    have : mv.src ∈ cand c .pawn mv.dst (pawnRes mv) := mem_cand.2 ⟨mv, h.mem, hk, rfl, hself, rfl⟩
    rw [hnil] at this
    cases this

theorem parseSource_text (c : Ctx) (mv : Move) (k : PieceKind) (amb : Ambiguity) (h : WF c mv)
    (hk : c.kindAt mv.src = some k) (ha : requiredAmbiguity c mv = some amb) :
    parseSource c (identL k mv ++ ambL amb mv) mv.dst = .ok mv.src := by
  rw [parseSource_eq c h.kinds]
  by_cases hp : k = .pawn
  · subst hp
    rw [requiredAmbiguity_pawn_king c mv .pawn hk (Or.inl rfl)] at ha
    obtain rfl := Option.some.inj ha
    have hhead : (identL .pawn mv).head?.bind parsePiece? = none := by
      simp only [identL]; split <;> simp [parsePiece_fileChar]
    have hres : parseResolution (identL .pawn mv) = some (pawnRes mv) := by
      simp only [identL, pawnRes]; split <;> simp [parseResolution, parseFile_fileChar]
    simp only [ambL, List.append_nil, hhead, hres, cand_pawn c mv h hk, uniq]
  · have e : identL k mv ++ ambL amb mv = kindChar k :: ambL amb mv := by
      cases k <;> first | exact absurd rfl hp | rfl
    simp only [e, List.head?_cons, Option.bind_some, parsePiece_kindChar, List.tail_cons, parseResolution_ambL,
      cand_piece c mv k amb h hk hp ha, uniq]

def plainL (l : List Char) : Prop := ∀ ch ∈ l, plain ch = true

theorem plainL_append {a b : List Char} (ha : plainL a) (hb : plainL b) : plainL (a ++ b) :=
  List.forall_mem_append.2 ⟨ha, hb⟩

theorem not_mem_of_plainL {l : List Char} (h : plainL l) : ∀ s ∈ seps, s ∉ l :=
  fun s hs hm => plain_ne (h s hm) s hs rfl

theorem plainL_ident (k : PieceKind) (mv : Move) : plainL (identL k mv) := by
  cases k <;> simp only [plainL, identL, List.mem_singleton, forall_eq, plain_kind]
  split <;> simp [plain_file]

theorem plainL_amb (amb : Ambiguity) (mv : Move) : plainL (ambL amb mv) := by
  cases amb <;> simp [plainL, ambL, plain_file, plain_rank]

theorem plainL_dst (d : Sq) : plainL (dstL d) := by
  simp [plainL, dstL, plain_file, plain_rank]

theorem not_mem_front {S : List Char} (hS : plainL S) (cap : Bool) (d : Sq) (s : Char) (hs : s ∈ seps)
    (hx : s ≠ 'x') : s ∉ S ++ xL cap ++ dstL d := by
  simp only [List.mem_append, not_or]
  exact ⟨⟨not_mem_of_plainL hS s hs, by cases cap <;> simp [xL, hx]⟩, not_mem_of_plainL (plainL_dst d) s hs⟩

theorem plus_not_mem_body {S : List Char} (hS : plainL S) (cap : Bool) (d : Sq) (promo : Option Promo) :
    '+' ∉ S ++ xL cap ++ dstL d ++ promoL promo := by
  rw [List.mem_append, not_or]
  refine ⟨not_mem_front hS cap d '+' (by decide) (by decide), ?_⟩
  cases promo with
  | none => simp [promoL]
  | some p => simp [promoL, (plain_ne (plain_promo p) '+' (by decide)).symm]

theorem strip_suffix (pre : List Char) (x : Char) (chk : Bool) (h1 : x ≠ '+') (h2 : x ≠ '#') :
    dropSuffixChars (dropSuffixChars (pre ++ [x] ++ checkL chk) '+') '#' = pre ++ [x] := by
  rw [dropSuffix_stop pre (checkL chk) x '+' (by cases chk <;> simp [checkL]) h1]
  have := dropSuffix_stop pre [] x '#' (by simp) h2
  rwa [List.append_nil] at this

theorem promoSplit_shaped {B : List Char} (hB : '=' ∉ B) (promo : Option Promo) :
    promoSplit (B ++ promoL promo) = some (B, promo) := by
  unfold promoSplit
  cases promo with
  | none => rw [promoL, List.append_nil, splitOnce_none _ _ hB]
  | some p => rw [promoL, splitOnce_mid _ _ _ hB]; cases p <;> rfl

theorem splitSrcDst_shaped {S : List Char} (hS : plainL S) (cap : Bool) (d : Sq) :
    splitSrcDst (S ++ xL cap ++ dstL d) = some (S, dstL d) := by
  unfold splitSrcDst
  cases cap
  · -- no `x` anywhere: the destination is the last two characters
    have hx : 'x' ∉ S ++ dstL d := not_mem_of_plainL (plainL_append hS (plainL_dst d)) 'x' (by decide)
    have hlen : (S ++ dstL d).length - 2 = S.length := by simp [dstL]
    simp only [xL, Bool.false_eq_true, if_false, List.append_nil]
    rw [splitOnce_none _ _ hx]
    simp only [hlen, List.take_left', List.drop_left']
    rw [if_neg (by simp [dstL])]
  · simp only [xL, if_true, List.append_assoc, List.singleton_append]
    rw [splitOnce_mid _ _ _ (not_mem_of_plainL hS 'x' (by decide))]

theorem parseDest_notation (d : Sq) : parseDest (dstL d) = some (some d) := by
  unfold parseDest dstL
  rw [if_neg (by simpa using byteSize_two d)]
  simp only [parseFile_fileChar, parseRank_rankChar, Option.bind_eq_bind, Option.bind_some]
  exact congrArg some d.mk?_file_rank

theorem parse_shaped (c : Ctx) (t : String) (S : List Char) (cap chk : Bool) (d : Sq) (promo : Option Promo)
    (hS : plainL S) (ht : t.toList = S ++ xL cap ++ dstL d ++ promoL promo ++ checkL chk) :
    parse c t = match parseSource c S d with
      | .panic => .panic
      | .err => .err
      | .ok src => expectMatching c src d promo := by
  -- the check suffix goes: what precedes it ends in a rank or in a promotion letter
  have hl : dropSuffixChars (dropSuffixChars t.toList '+') '#' = S ++ xL cap ++ dstL d ++ promoL promo := by
    rw [ht]
    cases promo with
    | none =>
      have e : S ++ xL cap ++ dstL d ++ promoL none = (S ++ xL cap ++ [fileChar d.file]) ++ [rankChar d.rank] := by
        simp [promoL, dstL]
      rw [e]
      exact strip_suffix _ _ chk (plain_ne (plain_rank d) '+' (by decide)) (plain_ne (plain_rank d) '#' (by decide))
    | some p =>
      have e : S ++ xL cap ++ dstL d ++ promoL (some p) = (S ++ xL cap ++ dstL d ++ ['=']) ++ [promoChar p] := by
        simp [promoL]
      rw [e]
      exact strip_suffix _ _ chk (plain_ne (plain_promo p) '+' (by decide)) (plain_ne (plain_promo p) '#' (by decide))
  -- it is not castling text: the first character is not `O`
  have hhead : ∀ rest, S ++ xL cap ++ dstL d ++ promoL promo ≠ 'O' :: rest := by
    intro rest e
    cases S with
    | cons a S' => exact plain_ne (hS a List.mem_cons_self) 'O' (by decide) (List.cons.inj e).1
    | nil =>
      cases cap <;> simp only [xL, dstL, List.nil_append, if_true, Bool.false_eq_true, if_false, List.cons_append,
        List.cons.injEq] at e
      · exact plain_ne (plain_file d) 'O' (by decide) e.1
      · exact absurd e.1 (by decide)
  have c1 : "O-O".toList = 'O' :: ['-', 'O'] := by decide
  have c2 : "O-O-O".toList = 'O' :: ['-', 'O', '-', 'O'] := by decide
  unfold parse
  simp only [hl]
  rw [if_neg (fun e => hhead _ (e.trans c1)), if_neg (fun e => hhead _ (e.trans c2))]
  simp only [promoSplit_shaped (not_mem_front hS cap d '=' (by decide) (by decide)), parseBody,
    splitSrcDst_shaped hS, parseDest_notation d]
  rfl

theorem parse_format (c : Ctx) (mv : Move) (t : String) (h : WF c mv) (hf : format c mv = some t) :
    parse c t = .ok mv := by
  obtain ⟨k, hk, hcase⟩ := format_chars c mv t hf
  have hpromo_piece : k ≠ .pawn → mv.promotion = none := fun hnp => h.noPromo mv h.mem k hk hnp
  have hkey := expectMatching_of_key c mv h
  rcases hcase with ⟨hks, ht⟩ | ⟨hqs, ht⟩ | ⟨amb, ha, ht⟩
  · have hl : dropSuffixChars (dropSuffixChars t.toList '+') '#' = ['O', '-', 'O'] := by
      rw [ht]; exact strip_suffix ['O', '-'] 'O' _ (by decide) (by decide)
    unfold parse
    simp only [hl]
    rw [if_pos (by decide), ← hks.2.1, ← hks.2.2, ← hpromo_piece (by rw [hks.1]; decide)]
    exact hkey
  · have hl : dropSuffixChars (dropSuffixChars t.toList '+') '#' = ['O', '-', 'O', '-', 'O'] := by
      rw [ht]; exact strip_suffix ['O', '-', 'O', '-'] 'O' _ (by decide) (by decide)
    unfold parse
    simp only [hl]
    rw [if_neg (by decide), if_pos (by decide), ← hqs.2.1, ← hqs.2.2, ← hpromo_piece (by rw [hqs.1]; decide)]
    exact hkey
  · rw [parse_shaped c t _ _ _ _ _ (plainL_append (plainL_ident k mv) (plainL_amb amb mv)) ht,
      parseSource_text c mv k amb h hk ha]
    exact hkey

theorem format_injective (c : Ctx) (m1 m2 : Move) (t : String) (h1 : WF c m1) (h2 : WF c m2)
    (f1 : format c m1 = some t) (f2 : format c m2 = some t) : m1 = m2 := by
  have a := parse_format c m1 t h1 f1
  have b := parse_format c m2 t h2 f2
  rw [a] at b
  exact Outcome.ok.inj b

end San
end Tcheran
