import TcheranVerif.Proofs.Game
/-!
# `make_move` as a whole: what it keeps (`StepInv.makeMove`) and what it answers (`makeMove_eq`)

`make_move` is a sequence of the primitives of `Proofs/Game.lean`. Hence whatever every primitive keeps
(`StepInv`: `Sync`, agreement of the views) the whole keeps, and since every primitive changes a known set
of fields, the answer is one record expression in the position before (`makeMove_eq`), whose board is
the list of `removeAt` / `setAt` edits in the order `make_move` performs them. Each stage is described in the
same two ways (`_keeps` / `_induct`, `_board` / `_eq`).
-/

namespace Tcheran
open Board Game

/-- `I` is kept by every primitive `make_move` is composed of -/
structure StepInv (c : Cfg) (I : Game → Prop) : Prop where
  setAt : ∀ g s pc, I g → g.board.pieceAt s = none → I (Game.setAt c g s pc)
  removeAt : ∀ g g' s pc, I g → Game.removeAt c g s = some (g', pc) → I g'
  history : ∀ g hs, I g → I { g with history := hs }
  setEp : ∀ g ne, I g → I (mmSetEp c g ne)
  rights : ∀ g p side, I g → I (tryRemoveRights c g p side)
  finish : ∀ g m cap, I g → I (mmFinish c g m cap)

theorem stepInv_sync (c : Cfg) : StepInv c (Sync c) :=
  ⟨sync_setAt c, sync_removeAt c, sync_history c, sync_mmSetEp c, sync_tryRemoveRights c, sync_mmFinish c⟩

theorem stepInv_consistent (c : Cfg) : StepInv c (fun g => g.board.Consistent) :=
  ⟨fun g s pc h he => consistent_setAt _ s pc h he,
   fun g g' s pc h hr => by
     obtain ⟨_, rfl⟩ := (removeAt_eq_some c g g' s pc).1 hr
     exact consistent_removeAt _ s h,
   fun _ _ h => h, fun _ _ h => h,
   fun g p side h => by
     obtain ⟨z, e⟩ := tryRemoveRights_eq c g p side
     rw [e]; exact h,
   fun _ _ _ h => h⟩

/-- `y` is `x` with board `b`, some key and some accumulators: what `set_at`, `remove_at` and any
    sequence of them leave of `x` -/
def BoardStep (x y : Game) (b : Board) : Prop := ∃ z i, y = { x with board := b, zobrist := z, inc := i }

theorem BoardStep.refl (x : Game) : BoardStep x x x.board := ⟨_, _, rfl⟩

theorem BoardStep.trans {x y w : Game} {b b' : Board} (h : BoardStep x y b) (h' : BoardStep y w b') :
    BoardStep x w b' := by
  obtain ⟨_, _, rfl⟩ := h
  obtain ⟨z, i, rfl⟩ := h'
  exact ⟨z, i, rfl⟩

theorem BoardStep.board {x y : Game} {b : Board} (h : BoardStep x y b) : y.board = b := by
  obtain ⟨_, _, rfl⟩ := h; rfl

theorem BoardStep.player {x y : Game} {b : Board} (h : BoardStep x y b) : y.player = x.player := by
  obtain ⟨_, _, rfl⟩ := h; rfl

theorem boardStep_removeAt {c : Cfg} {x y : Game} {s : Sq} {pc : Piece} (hr : Game.removeAt c x s = some (y, pc)) :
    BoardStep x y (x.board.removeAt s) :=
  ⟨_, _, ((removeAt_eq_some c x y s pc).1 hr).2⟩

theorem removeAt_total (c : Cfg) (x : Game) (s : Sq) (pc : Piece) (h : x.board.pieceAt s = some pc) :
    ∃ y, Game.removeAt c x s = some (y, pc) ∧ BoardStep x y (x.board.removeAt s) :=
  ⟨_, (removeAt_eq_some c x _ s pc).2 ⟨h, rfl⟩, _, _, rfl⟩

theorem boardStep_setAt (c : Cfg) (x : Game) (s : Sq) (pc : Piece) :
    BoardStep x (Game.setAt c x s pc) (x.board.setAt s pc) := ⟨_, _, rfl⟩

/-- `remove_at` under a test for a man on the square is in effect unconditional: on an empty square `removeAt`
    changes nothing -/
theorem removeIf (c : Cfg) (x : Game) (s : Sq) (t : Bool) (ht : t = (x.board.pieceAt s).isSome) :
    ∃ y, (if t then (Game.removeAt c x s).map (·.1) else some x) = some y ∧ BoardStep x y (x.board.removeAt s) := by
  subst ht
  cases hp : x.board.pieceAt s with
  | none => exact ⟨x, rfl, by rw [removeAt_none _ _ hp]; exact .refl x⟩
  | some pc =>
    obtain ⟨y, hy, sy⟩ := removeAt_total c x s pc hp
    exact ⟨y, by simp [hy], sy⟩

/-- The board edits of `mmPieces` in order; the removal on `dst` is unconditional by `removeIf`. -/
def piecesBoard (b : Board) (p : Player) (mv : Move) (moved : Piece) : Board :=
  let b := ((b.removeAt mv.src).removeAt mv.dst).setAt mv.dst (placedPiece mv p moved)
  if mv.isEnPassant then (match mv.dst.backward p with | some cs => b.removeAt cs | none => b) else b

theorem pieceAt_piecesBoard (b : Board) (p : Player) (mv : Move) (moved : Piece) (t : Sq) :
    (piecesBoard b p mv moved).pieceAt t =
      if mv.isEnPassant = true ∧ mv.dst.backward p = some t then none
      else if t = mv.dst then some (placedPiece mv p moved)
      else if t = mv.src then none
      else b.pieceAt t := by
  have h3 : ∀ t, (((b.removeAt mv.src).removeAt mv.dst).setAt mv.dst (placedPiece mv p moved)).pieceAt t =
      if t = mv.dst then some (placedPiece mv p moved) else if t = mv.src then none else b.pieceAt t := by
    intro t
    rw [pieceAt_setAt, pieceAt_removeAt, pieceAt_removeAt]
    by_cases hd : t = mv.dst <;> simp [hd]
  unfold piecesBoard
  by_cases hep : mv.isEnPassant = true
  · cases mv.dst.backward p with
    | none => simp only [hep, if_true, reduceCtorEq, and_false, if_false]; exact h3 t
    | some cs => simp only [hep, if_true, true_and, Option.some.injEq, pieceAt_removeAt, h3, eq_comm (a := cs)]
  · rw [if_neg hep, if_neg (fun h => hep h.1)]; exact h3 t

theorem castling_not_ep (mv : Move) (hc : mv.isCastling = true) : mv.isEnPassant = false := by
  obtain ⟨s, d, f⟩ := mv
  cases f <;> simp_all [Move.isCastling, Move.isEnPassant]

theorem pieceAt_piecesBoard_castling (b : Board) (p : Player) (mv : Move) (moved : Piece) (hc : mv.isCastling = true)
    {t : Sq} (h1 : t ≠ mv.src) (h2 : t ≠ mv.dst) : (piecesBoard b p mv moved).pieceAt t = b.pieceAt t := by
  rw [pieceAt_piecesBoard, castling_not_ep mv hc, if_neg (by simp), if_neg h2, if_neg h1]

theorem consistent_piecesBoard (b : Board) (p : Player) (mv : Move) (moved : Piece) (hc : b.Consistent) :
    (piecesBoard b p mv moved).Consistent := by
  have h3 := consistent_setAt _ mv.dst (placedPiece mv p moved)
    (consistent_removeAt _ mv.dst (consistent_removeAt b mv.src hc)) (by rw [pieceAt_removeAt, if_pos rfl])
  unfold piecesBoard
  split
  · split
    · exact consistent_removeAt _ _ h3
    · exact h3
  · exact h3

theorem mmPieces_board (c : Cfg) (g : Game) (mv : Move) (g1 : Game) (moved : Piece) (cap : Option Piece)
    (hr : mmPieces c g mv = some (g1, moved, cap)) :
    g.board.pieceAt mv.src = some moved ∧ cap = g.board.pieceAt mv.dst ∧ mv.src ≠ mv.dst ∧
    BoardStep { g with history := { mv := some mv, captured := cap, rights := g.rights, ep := g.ep,
                                    halfmove := g.halfmove, zobrist := g.zobrist, inc := g.inc } :: g.history }
      g1 (piecesBoard g.board g.player mv moved) := by
  unfold mmPieces at hr
  simp only [bind, Option.bind_eq_some_iff, pure, Option.some.injEq, Prod.mk.injEq] at hr
  obtain ⟨⟨ga, mvd⟩, hA, gb, hB, gd, hD, rfl, rfl, rfl⟩ := hr
  have hsrc : g.board.pieceAt mv.src = some _ := ((removeAt_eq_some _ _ _ _ _).1 hA).1
  have sA := boardStep_removeAt hA
  -- `src ≠ dst`: otherwise a capture is recorded, and nothing is left on `dst` to remove
  have hne : mv.src ≠ mv.dst := by
    intro e
    rw [← e, hsrc, Option.isSome_some, if_pos rfl] at hB
    obtain ⟨⟨_, pcb⟩, hB1, _⟩ := Option.map_eq_some_iff.1 hB
    have := ((removeAt_eq_some _ _ _ _ _).1 hB1).1
    rw [sA.board, pieceAt_removeAt, if_pos rfl] at this
    cases this
  obtain ⟨gb', hB', sB⟩ := removeIf c ga mv.dst (g.board.pieceAt mv.dst).isSome
    (by rw [sA.board, pieceAt_removeAt, if_neg (Ne.symm hne)])
  cases hB.symm.trans hB'
  have hpl : gb.player = g.player := sB.player.trans sA.player
  simp only [hpl] at hD
  have sC := (sA.trans sB).trans (boardStep_setAt c gb mv.dst (placedPiece mv g.player mvd))
  rw [sB.board, sA.board] at sC
  unfold piecesBoard
  split at hD
  · rename_i hep
    obtain ⟨cs, hcs, hD⟩ := Option.bind_eq_some_iff.1 hD
    obtain ⟨⟨_, pcd⟩, hD1, rfl⟩ := Option.map_eq_some_iff.1 hD
    have sD := sC.trans (boardStep_removeAt hD1)
    rw [sC.board] at sD
    rw [if_pos hep, show mv.dst.backward g.player = some cs from hpl ▸ hcs]
    exact ⟨hsrc, rfl, hne, sD⟩
  · rename_i hep
    cases hD
    rw [if_neg hep]
    exact ⟨hsrc, rfl, hne, sC⟩

/-- the mover is put down on `dst`, which is empty by then -/
theorem mmPieces_keeps (c : Cfg) (g : Game) (mv : Move) (g1 : Game) (moved : Piece) (cap : Option Piece)
    (hr : mmPieces c g mv = some (g1, moved, cap)) {I : Game → Prop} (hI : StepInv c I) (h : I g) : I g1 := by
  unfold mmPieces at hr
  simp only [bind, Option.bind_eq_some_iff, pure, Option.some.injEq, Prod.mk.injEq] at hr
  obtain ⟨⟨ga, mvd⟩, hA, gb, hB, gd, hD, rfl, rfl, rfl⟩ := hr
  have iA : I ga := hI.removeAt _ _ _ _ (hI.history g _ h) hA
  have iB : I gb ∧ gb.board.pieceAt mv.dst = none := by
    split at hB
    · obtain ⟨⟨_, pcb⟩, hB1, rfl⟩ := Option.map_eq_some_iff.1 hB
      exact ⟨hI.removeAt _ _ _ _ iA hB1, by rw [(boardStep_removeAt hB1).board, pieceAt_removeAt, if_pos rfl]⟩
    · rename_i hn
      cases hB
      exact ⟨iA, by rw [(boardStep_removeAt hA).board, pieceAt_removeAt, Option.not_isSome_iff_eq_none.1 hn, ite_self]⟩
  have iC := hI.setAt gb mv.dst (placedPiece mv gb.player mvd) iB.1 iB.2
  split at hD
  · obtain ⟨cs, _, hD⟩ := Option.bind_eq_some_iff.1 hD
    obtain ⟨⟨_, pcd⟩, hD1, rfl⟩ := Option.map_eq_some_iff.1 hD
    exact hI.removeAt _ _ _ _ iC hD1
  · cases hD
    exact iC

structure PiecesSpec (c : Cfg) (g : Game) (mv : Move) (g1 : Game) (moved : Piece) (cap : Option Piece) : Prop where
  sync : Sync c g → Sync c g1
  cons : g.board.Consistent → g1.board.Consistent
  player : g1.player = g.player
  rights : g1.rights = g.rights
  ep : g1.ep = g.ep
  halfmove : g1.halfmove = g.halfmove
  plies : g1.plies = g.plies
  history : g1.history =
    { mv := some mv, captured := cap, rights := g.rights, ep := g.ep, halfmove := g.halfmove,
      zobrist := g.zobrist, inc := g.inc } :: g.history
  cap_eq : cap = g.board.pieceAt mv.dst
  moved_eq : g.board.pieceAt mv.src = some moved
  src_ne_dst : mv.src ≠ mv.dst
  mailbox : ∀ t, g1.board.pieceAt t =
    if mv.isEnPassant = true ∧ mv.dst.backward g.player = some t then none
    else if t = mv.dst then some (placedPiece mv g.player moved)
    else if t = mv.src then none
    else g.board.pieceAt t

theorem mmPieces_spec (c : Cfg) (g : Game) (mv : Move) (g1 : Game) (moved : Piece) (cap : Option Piece)
    (hr : mmPieces c g mv = some (g1, moved, cap)) : PiecesSpec c g mv g1 moved cap := by
  have keeps := @mmPieces_keeps c g mv g1 moved cap hr
  obtain ⟨hsrc, hcap, hne, _, _, rfl⟩ := mmPieces_board c g mv g1 moved cap hr
  exact ⟨keeps (stepInv_sync c), keeps (stepInv_consistent c), rfl, rfl, rfl, rfl, rfl, rfl, hcap, hsrc, hne,
    pieceAt_piecesBoard g.board g.player mv moved⟩

theorem mmCastle_board (c : Cfg) (x y : Game) (mv : Move) (h : mmCastle c x mv = some y) :
    ∃ b, BoardStep x y b ∧ (mv.isCastling = false → b = x.board) ∧
      (mv.isCastling = true → ∀ rf rt, castleSquares x.player mv.dst = some (rf, rt) →
        ∃ rook, x.board.pieceAt rf = some rook ∧ b = (x.board.removeAt rf).setAt rt rook) := by
  unfold mmCastle at h
  split at h
  · rename_i hc
    split at h
    · rename_i rf rt hcs
      simp only [bind, Option.bind_eq_some_iff] at h
      obtain ⟨⟨x1, rook⟩, h1, h2⟩ := h
      cases h2
      have s1 := boardStep_removeAt h1
      refine ⟨_, s1.trans (boardStep_setAt c x1 rt rook), fun hn => Bool.noConfusion (hc.symm.trans hn),
        fun _ rf' rt' hcs' => ?_⟩
      cases hcs.symm.trans hcs'
      exact ⟨rook, ((removeAt_eq_some _ _ _ _ _).1 h1).1, by rw [s1.board]⟩
    · rename_i hcs
      cases h
      exact ⟨_, BoardStep.refl x, fun _ => rfl, fun _ rf rt hcs' => by rw [hcs'] at hcs; cases hcs⟩
  · rename_i hc
    cases h
    exact ⟨_, BoardStep.refl x, fun _ => rfl, fun hc' => absurd hc' hc⟩

theorem mmCastle_keeps (c : Cfg) (x y : Game) (mv : Move) (h : mmCastle c x mv = some y) {I : Game → Prop}
    (hI : StepInv c I) (hx : I x)
    (hroom : mv.isCastling = true → ∀ rf rt, castleSquares x.player mv.dst = some (rf, rt) →
      rt ≠ rf ∧ x.board.pieceAt rt = none) : I y := by
  unfold mmCastle at h
  split at h
  · rename_i hc
    split at h
    · rename_i rf rt hcs
      simp only [bind, Option.bind_eq_some_iff] at h
      obtain ⟨⟨x1, rook⟩, h1, h2⟩ := h
      cases h2
      obtain ⟨hne, hemp⟩ := hroom hc rf rt hcs
      exact hI.setAt x1 rt rook (hI.removeAt x x1 rf rook hx h1)
        (by rw [(boardStep_removeAt h1).board, pieceAt_removeAt, if_neg hne, hemp])
    · cases h
      exact hx
  · cases h
    exact hx

/-- `mmRights` only ever applies `tryRemoveRights`: leaf by leaf along its two `if`-trees -/
theorem mmRights_induct (c : Cfg) (P : Game → Prop) (hP : ∀ g p side, P g → P (tryRemoveRights c g p side))
    (g : Game) (mv : Move) (moved : Piece) (cap : Option Piece) (h : P g) : P (mmRights c g mv moved cap) :=
  have ite_ind (q : Prop) [Decidable q] {a b : Game} (ha : P a) (hb : P b) : P (if q then a else b) :=
    iteInduction (fun _ => ha) (fun _ => hb)
  have mover : P (if moved.kind = .king ∧ mv.src = kingStart g.player then
        tryRemoveRights c (tryRemoveRights c g g.player .king) g.player .queen
      else if moved.kind = .rook then
        if mv.src = kingsideRookStart g.player then tryRemoveRights c g g.player .king
        else if mv.src = queensideRookStart g.player then tryRemoveRights c g g.player .queen
        else g
      else g) :=
    ite_ind _ (hP _ _ _ (hP _ _ _ h)) (ite_ind _ (ite_ind _ (hP _ _ _ h) (ite_ind _ (hP _ _ _ h) h)) h)
  ite_ind _ (ite_ind _ (hP _ _ _ mover) (ite_ind _ (hP _ _ _ mover) mover)) mover

def moverRights (r : Rights) (p : Player) (mv : Move) (moved : Piece) : Rights :=
  if moved.kind = .king ∧ mv.src = kingStart p then Rights.remove (Rights.remove r p .king) p .queen
  else if moved.kind = .rook then
    if mv.src = kingsideRookStart p then Rights.remove r p .king
    else if mv.src = queensideRookStart p then Rights.remove r p .queen
    else r
  else r

def capturedRights (r : Rights) (o : Player) (mv : Move) (cap : Option Piece) : Rights :=
  if cap.isSome then
    if mv.dst = kingsideRookStart o then Rights.remove r o .king
    else if mv.dst = queensideRookStart o then Rights.remove r o .queen
    else r
  else r

/-- what `mmRights` computes (`mmRights_rights`) and what the rules prescribe (`apply_rights`); in closed form
`has_rightsAfter` -/
def rightsAfter' (r : Rights) (p : Player) (mv : Move) (moved : Piece) (cap : Option Piece) : Rights :=
  capturedRights (moverRights r p mv moved) p.other mv cap

theorem rook_starts_ne (p : Player) : kingsideRookStart p ≠ queensideRookStart p := by cases p <;> decide

def rookHome (pl : Player) : Side → Sq
  | .king => kingsideRookStart pl
  | .queen => queensideRookStart pl

theorem has_remove (r : Rights) (a pl : Player) (s sd : Side) :
    Rights.has (Rights.remove r a s) pl sd = (Rights.has r pl sd && !(decide (a = pl) && decide (s = sd))) := by
  obtain ⟨⟨w1, w2⟩, ⟨b1, b2⟩⟩ := r
  cases a <;> cases pl <;> cases s <;> cases sd <;> simp [Rights.has, Rights.remove, Rights.forP]

/-- the shape of both the moved-rook and the captured-rook rule -/
theorem has_dropHome (r : Rights) (a pl : Player) (sq : Sq) (sd : Side) :
    Rights.has (if sq = kingsideRookStart a then Rights.remove r a .king
      else if sq = queensideRookStart a then Rights.remove r a .queen else r) pl sd =
    (Rights.has r pl sd && !(decide (a = pl) && decide (sq = rookHome a sd))) := by
  have hne := rook_starts_ne a
  by_cases h1 : sq = kingsideRookStart a
  · have h2 : sq ≠ queensideRookStart a := fun e => hne (h1.symm.trans e)
    rw [if_pos h1, has_remove]
    cases sd <;> simp [rookHome, h1, hne]
  · rw [if_neg h1]
    by_cases h2 : sq = queensideRookStart a
    · rw [if_pos h2, has_remove]
      cases sd <;> simp [rookHome, h2, hne.symm]
    · rw [if_neg h2]
      cases sd <;> simp [rookHome, h1, h2]

theorem has_rightsAfter (r : Rights) (p pl : Player) (m : Move) (M : Piece) (cap : Option Piece) (sd : Side) :
    Rights.has (rightsAfter' r p m M cap) pl sd =
      (Rights.has r pl sd &&
        !(decide (p = pl) && (decide (M.kind = .king ∧ m.src = kingStart p) ||
            decide (M.kind = .rook) && decide (m.src = rookHome p sd))) &&
        !(decide (p.other = pl) && cap.isSome && decide (m.dst = rookHome p.other sd))) := by
  have hcap : ∀ r', Rights.has (capturedRights r' p.other m cap) pl sd =
      (Rights.has r' pl sd && !(decide (p.other = pl) && cap.isSome && decide (m.dst = rookHome p.other sd))) := by
    intro r'
    unfold capturedRights
    cases cap <;> simp [has_dropHome]
  unfold rightsAfter'
  rw [hcap]
  congr 1
  unfold moverRights
  by_cases h1 : M.kind = .king ∧ m.src = kingStart p
  · rw [if_pos h1, has_remove, has_remove]
    cases sd <;> simp [h1] <;> cases Rights.has r pl _ <;> simp
  · rw [if_neg h1]
    by_cases h2 : M.kind = .rook
    · rw [if_pos h2, has_dropHome]
      simp [h2]
    · rw [if_neg h2]
      simp [h1, h2]

theorem tryRemoveRights_rights (c : Cfg) (g : Game) (p : Player) (side : Side) :
    (tryRemoveRights c g p side).rights = Rights.remove g.rights p side := by
  obtain ⟨z, e⟩ := tryRemoveRights_eq c g p side
  rw [e]

theorem mmRights_rights (c : Cfg) (g : Game) (mv : Move) (moved : Piece) (cap : Option Piece) :
    (mmRights c g mv moved cap).rights = rightsAfter' g.rights g.player mv moved cap := by
  simp only [mmRights, rightsAfter', capturedRights, moverRights, apply_ite Game.rights, tryRemoveRights_rights]

theorem mmRights_eq (c : Cfg) (g : Game) (mv : Move) (moved : Piece) (cap : Option Piece) :
    ∃ z, mmRights c g mv moved cap = { g with rights := rightsAfter' g.rights g.player mv moved cap, zobrist := z } := by
  obtain ⟨r, z, e⟩ := mmRights_induct c (fun x => ∃ r z, x = { g with rights := r, zobrist := z })
    (fun x p side ⟨r, z, e⟩ => by
      obtain ⟨z', e'⟩ := tryRemoveRights_eq c x p side
      subst e
      exact ⟨_, z', e'⟩)
    g mv moved cap ⟨_, _, rfl⟩
  refine ⟨z, ?_⟩
  rw [← mmRights_rights c g mv moved cap, e]

/-- Every field but the key and the accumulators, which `Sync` describes. Nothing is said of `b` for a move
    flagged as castling whose destination is not a castling destination; no legal move is one. -/
theorem makeMove_eq (c : Cfg) (g g' : Game) (mv : Move) (hr : makeMove c g mv = some g') :
    ∃ moved newEp b z i,
      g.board.pieceAt mv.src = some moved ∧ mv.src ≠ mv.dst ∧
      mmNewEp { g with board := piecesBoard g.board g.player mv moved } mv moved = some newEp ∧
      (mv.isCastling = false → b = piecesBoard g.board g.player mv moved) ∧
      (mv.isCastling = true → ∀ rf rt, castleSquares g.player mv.dst = some (rf, rt) →
        ∃ rook, (piecesBoard g.board g.player mv moved).pieceAt rf = some rook ∧
          b = ((piecesBoard g.board g.player mv moved).removeAt rf).setAt rt rook) ∧
      g' = { player := g.player.other, board := b,
             rights := rightsAfter' g.rights g.player mv moved (g.board.pieceAt mv.dst), ep := newEp,
             halfmove := if (g.board.pieceAt mv.dst).isSome ∨ moved.kind = .pawn then 0 else g.halfmove + 1,
             plies := g.plies + 1, zobrist := z, inc := i,
             history := { mv := some mv, captured := g.board.pieceAt mv.dst, rights := g.rights, ep := g.ep,
                          halfmove := g.halfmove, zobrist := g.zobrist, inc := g.inc } :: g.history } := by
  unfold makeMove at hr
  simp only [bind, Option.bind_eq_some_iff, Option.some.injEq] at hr
  obtain ⟨⟨g1, moved, cap⟩, h1, newEp, h2, g3, h3, rfl⟩ := hr
  obtain ⟨hsrc, rfl, hne, _, _, rfl⟩ := mmPieces_board c g mv g1 moved cap h1
  obtain ⟨b, ⟨_, i, rfl⟩, hnc, hcs⟩ := mmCastle_board c _ g3 mv h3
  obtain ⟨z, e⟩ := mmRights_eq c _ mv moved (g.board.pieceAt mv.dst)
  rw [e]
  exact ⟨moved, newEp, b, _, i, hsrc, hne, h2, hnc, hcs, rfl⟩

theorem makeMove_history (c : Cfg) (g g' : Game) (mv : Move) (hr : makeMove c g mv = some g') :
    g'.history = { mv := some mv, captured := g.board.pieceAt mv.dst, rights := g.rights, ep := g.ep,
                   halfmove := g.halfmove, zobrist := g.zobrist, inc := g.inc } :: g.history := by
  obtain ⟨_, _, _, _, _, _, _, _, _, _, rfl⟩ := makeMove_eq c g g' mv hr
  rfl

/-- what a castling move needs for `make_move` to set the rook down on an empty square -/
def CastleRoom (g : Game) (mv : Move) : Prop :=
  mv.isCastling = true → ∀ rf rt, castleSquares g.player mv.dst = some (rf, rt) →
    rt ≠ rf ∧ rt ≠ mv.dst ∧ rt ≠ mv.src ∧ g.board.pieceAt rt = none

/-- Only the castling rook's `set_at` needs to be told that its square is empty (`CastleRoom`); the mover's follows
    a `remove_at` on the same square. -/
theorem StepInv.makeMove {c : Cfg} {I : Game → Prop} (hI : StepInv c I) (g g' : Game) (mv : Move) (h : I g)
    (hr : makeMove c g mv = some g') (hroom : CastleRoom g mv) : I g' := by
  unfold Game.makeMove at hr
  simp only [bind, Option.bind_eq_some_iff, Option.some.injEq] at hr
  obtain ⟨⟨g1, moved, cap⟩, h1, newEp, h2, g3, h3, rfl⟩ := hr
  obtain ⟨_, _, _, s1⟩ := mmPieces_board c g mv g1 moved cap h1
  refine hI.finish _ moved cap (mmRights_induct c I hI.rights g3 mv moved cap
    (mmCastle_keeps c _ g3 mv h3 hI (hI.setEp g1 newEp (mmPieces_keeps c g mv g1 moved cap h1 hI h)) ?_))
  intro hc rf rt hcs
  obtain ⟨n1, n2, n3, he⟩ := hroom hc rf rt ((show (mmSetEp c g1 newEp).player = g.player from s1.player) ▸ hcs)
  refine ⟨n1, ?_⟩
  show g1.board.pieceAt rt = none
  rw [s1.board, pieceAt_piecesBoard_castling _ _ _ _ hc n3 n2, he]

/-- A null move is the e.p. update to `none` followed by the side flip; the halfmove clock, which `mmFinish`
    also sets, is not read by `Sync`. -/
theorem sync_makeNull (c : Cfg) (g : Game) (h : Sync c g) : Sync c (makeNull c g) :=
  have h' := sync_mmFinish c _ ⟨.pawn, .white⟩ none (sync_mmSetEp c _ none (sync_history c g _ h))
  ⟨h'.cons, h'.key, h'.inc⟩

end Tcheran
