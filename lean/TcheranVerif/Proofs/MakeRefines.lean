import TcheranVerif.Proofs.MakeMove
import TcheranVerif.Proofs.RulesSplit
/-!
# `make_refines`: `make_move` produces the position the rules prescribe (C02)

Field by field from `makeMove_eq`: the placement because `Rules.applyBoard` is the mailbox of the same edit
list (`applyBoard_eq`), the rights because both sides are `rightsAfter'` (`mmRights_rights`, `apply_rights`),
the e.p. target by `newEp_rules`; side and counters are read off.
-/

namespace Tcheran
open Board Game Rules

/-- The rules test the two home squares of the rooks one after the other (two steps of the `let` chain of
`Rules.apply`), `make_move` in a nested `if`; the two squares differ. `t`: a rook of the mover on `sq`, or a
capture on `sq`. -/
theorem rules_dropHome (r : Rights) (a : Player) (t : Bool) (sq : Sq) :
    (if t && sq == queensideRookStart a then
        dropRight (if t && sq == kingsideRookStart a then dropRight r a .king else r) a .queen
      else if t && sq == kingsideRookStart a then dropRight r a .king else r) =
    if t then
      if sq = kingsideRookStart a then Rights.remove r a .king
      else if sq = queensideRookStart a then Rights.remove r a .queen
      else r
    else r := by
  unfold dropRight
  have hne := rook_starts_ne a
  cases t
  · simp
  · by_cases h1 : sq = kingsideRookStart a
    · simp [h1, hne]
    · by_cases h2 : sq = queensideRookStart a <;> simp [h1, h2, Ne.symm hne]

/-- the rights computation of `Rules.apply`, as it stands there -/
theorem rules_rights (r : Rights) (p : Player) (mv : Move) (M : Piece) (cap : Option Piece) (hM : M.player = p) :
    (let r0 := r
     let r1 := if (some M == some (⟨.king, p⟩ : Piece)) && mv.src == kingStart p then
        dropRight (dropRight r0 p .king) p .queen else r0
     let r2 := if (some M == some (⟨.rook, p⟩ : Piece)) && mv.src == kingsideRookStart p then dropRight r1 p .king else r1
     let r3 := if (some M == some (⟨.rook, p⟩ : Piece)) && mv.src == queensideRookStart p then dropRight r2 p .queen else r2
     let r4 := if cap.isSome && mv.dst == kingsideRookStart p.other then dropRight r3 p.other .king else r3
     let r5 := if cap.isSome && mv.dst == queensideRookStart p.other then dropRight r4 p.other .queen else r4
     r5) = rightsAfter' r p mv M cap := by
  obtain ⟨kk, pl⟩ := M
  simp only at hM
  subst hM
  simp only [rules_dropHome]
  unfold rightsAfter' capturedRights moverRights dropRight
  -- the rules' test for the king excludes their tests for a rook
  by_cases hk : kk = .king
  · subst hk
    simp
  · by_cases hr : kk = .rook
    · subst hr
      simp
    · simp [hk, hr]

theorem apply_rights (pos : Pos) (m : Move) (M : Piece) (hsrc : at' pos.board m.src = some M)
    (hM : M.player = pos.player) :
    (Rules.apply pos m).rights = rightsAfter' pos.rights pos.player m M (at' pos.board m.dst) := by
  rw [← rules_rights pos.rights pos.player m M (at' pos.board m.dst) hM]
  simp only [Rules.apply, hsrc]

theorem mem_west_bb (d x : Sq) : mem (BB.west (bb d)) x = true ↔ offset d (-1) 0 = some x := mem_inDir_bb .W d x

theorem mem_east_bb (d x : Sq) : mem (BB.east (bb d)) x = true ↔ offset d 1 0 = some x := mem_inDir_bb .E d x

/-- names the `ep` field of `Rules.apply`, for `rw` -/
theorem apply_ep_eq (pos : Pos) (m : Move) :
    (Rules.apply pos m).ep =
      (if ((at' pos.board m.src).any (fun pc => pc.kind == .pawn) && decide (m.src.rank = startRank pos.player) &&
            decide ((m.dst.rank : Int) = m.src.rank + 2 * fwd pos.player)) = true then
        (if (isPiece (applyBoard pos.board pos.player m) (offset m.dst (-1) 0) .pawn pos.player.other ||
             isPiece (applyBoard pos.board pos.player m) (offset m.dst 1 0) .pawn pos.player.other) = true then
          offset m.src 0 (fwd pos.player) else none)
      else none) := rfl

theorem newEp_rules (b1 : Board) (hc1 : Consistent b1) (p : Player) (mv : Move) (moved : Piece) (newEp : Option Sq)
    (h : (if moved.kind = .pawn ∧ mem (pawnBackRank p) mv.src ∧ mem (pawnDoublePushRank p) mv.dst then
            (if ((BB.west (bb mv.dst) ||| BB.east (bb mv.dst)) &&& b1.pawnsOf p.other) ≠ 0#64 then
              (mv.src.forward p).map some else some none)
          else some none) = some newEp) :
    newEp = (if (some moved).any (fun pc => pc.kind == .pawn) && decide (mv.src.rank = startRank p) &&
                decide ((mv.dst.rank : Int) = mv.src.rank + 2 * fwd p) then
              (if isPiece b1.squares (offset mv.dst (-1) 0) .pawn p.other ||
                  isPiece b1.squares (offset mv.dst 1 0) .pawn p.other then offset mv.src 0 (fwd p) else none)
            else none) := by
  have hcond : ((some moved).any (fun pc => pc.kind == .pawn) && decide (mv.src.rank = startRank p) &&
      decide ((mv.dst.rank : Int) = mv.src.rank + 2 * fwd p)) = true ↔
      (moved.kind = .pawn ∧ mem (pawnBackRank p) mv.src = true ∧ mem (pawnDoublePushRank p) mv.dst = true) := by
    rw [pawnHome_eq, pawnDouble_eq, Geo.mem_pawnHome, Geo.mem_pawnDouble]
    simp only [Option.any_some, Bool.and_eq_true, beq_iff_eq, decide_eq_true_eq]
    exact ⟨fun ⟨⟨a, b⟩, c⟩ => ⟨a, b, by omega⟩, fun ⟨a, b, c⟩ => ⟨⟨a, b⟩, by omega⟩⟩
  have hadj : (isPiece b1.squares (offset mv.dst (-1) 0) .pawn p.other ||
        isPiece b1.squares (offset mv.dst 1 0) .pawn p.other) = true ↔
      ((BB.west (bb mv.dst) ||| BB.east (bb mv.dst)) &&& b1.pawnsOf p.other) ≠ 0#64 := by
    have hp : ∀ x, mem (b1.pawnsOf p.other) x = true ↔ at' b1.squares x = some ⟨.pawn, p.other⟩ :=
      mem_kindOf b1 hc1 .pawn p.other
    rw [bb_ne_zero_iff, Bool.or_eq_true, isPiece_iff, isPiece_iff]
    simp only [mem_and, mem_or, Bool.and_eq_true, Bool.or_eq_true, mem_west_bb, mem_east_bb, hp, or_and_right,
      exists_or]
  have hfw : offset mv.src 0 (fwd p) = mv.src.forward p := (Geo.forward_eq_offset mv.src p).symm
  simp only [hcond, hadj, hfw]
  split at h
  · split at h
    · cases hf : mv.src.forward p <;> simp_all
    · simp_all
  · simp_all

/-- The rules set down a rook of the side to move, whatever stood on the corner. `setAt ∘ removeAt` on `dst` is
    one `setSq`. -/
theorem applyBoard_eq (b : Board) (p : Player) (mv : Move) (moved : Piece) (hsrc : b.pieceAt mv.src = some moved) :
    applyBoard b.squares p mv =
      if mv.isCastling then
        match castleSquares p mv.dst with
        | some (rf, rt) => (((piecesBoard b p mv moved).removeAt rf).setAt rt ⟨.rook, p⟩).squares
        | none => (piecesBoard b p mv moved).squares
      else (piecesBoard b p mv moved).squares := by
  unfold applyBoard piecesBoard
  rw [show at' b.squares mv.src = some moved from hsrc, ← backward_eq_offset]
  cases mv.dst.backward p <;> cases castleSquares p mv.dst <;>
    simp only [setSq, apply_ite Board.squares, squares_setAt, squares_removeAt, Vector.set_set] <;> rfl

theorem pos_ext (a b : Pos) (h1 : a.board = b.board) (h2 : a.player = b.player) (h3 : a.rights = b.rights)
    (h4 : a.ep = b.ep) (h5 : a.halfmove = b.halfmove) (h6 : a.plies = b.plies) : a = b := by
  cases a; cases b; simp only at *; subst h1 h2 h3 h4 h5 h6; rfl

theorem make_refines (c : Cfg) (g g' : Game) (mv : Move) (hc : Consistent g.board)
    (hr : makeMove c g mv = some g')
    (hown : ∀ M, g.board.pieceAt mv.src = some M → M.player = g.player)
    (hcastle : mv.isCastling = true →
      (∀ M, g.board.pieceAt mv.src = some M → M.kind = .king) ∧
      ∃ rf rt, castleSquares g.player mv.dst = some (rf, rt) ∧ g.board.pieceAt rf = some ⟨.rook, g.player⟩ ∧
        rf ≠ mv.src ∧ rf ≠ mv.dst) :
    ofGame g' = Rules.apply (ofGame g) mv := by
  obtain ⟨moved, newEp, b, z, i, hmoved, _, h2, hnc, hcs, rfl⟩ := makeMove_eq c g g' mv hr
  have hsrc' : at' g.board.squares mv.src = some moved := hmoved
  apply pos_ext
  · show b.squares = applyBoard g.board.squares g.player mv
    rw [applyBoard_eq g.board g.player mv moved hmoved]
    by_cases hcc : mv.isCastling = true
    · obtain ⟨_, rf, rt, hsq, hrook, hne1, hne2⟩ := hcastle hcc
      obtain ⟨rook, hrk, rfl⟩ := hcs hcc rf rt hsq
      rw [pieceAt_piecesBoard_castling _ _ _ _ hcc hne1 hne2, hrook] at hrk
      cases hrk
      simp only [hcc, if_true, hsq]
    · have hccf : mv.isCastling = false := by simpa using hcc
      simp only [hccf, Bool.false_eq_true, if_false, hnc hccf]
  · rfl
  · exact (apply_rights (ofGame g) mv moved hmoved (hown moved hmoved)).symm
  · show newEp = (Rules.apply (ofGame g) mv).ep
    rw [newEp_rules _ (consistent_piecesBoard g.board g.player mv moved hc) g.player mv moved newEp h2, apply_ep_eq]
    simp only [ofGame, hsrc']
    -- the rules look at the final placement; for a pawn move it is the placement after `mmPieces`
    by_cases hk : moved.kind = .pawn
    · have hccf : mv.isCastling = false := by
        cases hcc : mv.isCastling with
        | false => rfl
        | true => rw [(hcastle hcc).1 _ hmoved] at hk; cases hk
      simp only [applyBoard_eq g.board g.player mv moved hmoved, hccf, Bool.false_eq_true, if_false]
      rfl
    · have hany : (some moved).any (fun pc => pc.kind == .pawn) = false := by simp [hk]
      simp [hany]
  · show (if (g.board.pieceAt mv.dst).isSome ∨ moved.kind = .pawn then 0 else g.halfmove + 1) = _
    simp only [Rules.apply, ofGame, hsrc']
    show _ = if (g.board.pieceAt mv.dst).isSome || (some moved).any (fun pc => pc.kind == .pawn) then 0 else g.halfmove + 1
    by_cases h5 : (g.board.pieceAt mv.dst).isSome = true <;> by_cases h6 : moved.kind = .pawn <;> simp [h5, h6]
  · rfl

end Tcheran
