import TcheranVerif.Model.Eval
/-!
# The packed representation and the blend (C16)

`Box lo hi x`: `x` is a packed pair with both halves in `[lo, hi]` — the one notion every bound of the evaluation is
about.  The blend of a boxed value is defined, lies in the box and is odd (`forPhase_box`).
-/
namespace Tcheran
namespace Eval

theorem phaseMax24 : Gen.phaseCountMax = 24 := by decide

theorem pack_add (a b c d : Int) : pack a b + pack c d = pack (a + c) (b + d) := by unfold pack; omega
theorem pack_neg (a b : Int) : -(pack a b) = pack (-a) (-b) := by unfold pack; omega

theorem midgame_of_pack (mg eg : Int) (h1 : -32768 ≤ mg) (h2 : mg ≤ 32767) : midgame (pack mg eg) = mg := by
  unfold midgame pack; omega

theorem endgame_of_pack (mg eg : Int) (h1 : -32768 ≤ mg) (h2 : mg ≤ 32767) : endgame (pack mg eg) = eg := by
  unfold endgame pack; omega

/-- the weighted mean that `forPhase` narrows to `i16` -/
def blend (mg eg phase : Int) : Int := Int.tdiv (mg * min phase 24 + eg * (24 - min phase 24)) 24

theorem forPhase_pack (mg eg phase : Int) (h1 : -32768 ≤ mg) (h2 : mg ≤ 32767) :
    forPhase (pack mg eg) phase = if inI16 (blend mg eg phase) then some (blend mg eg phase) else none := by
  unfold forPhase blend
  rw [midgame_of_pack mg eg h1 h2, endgame_of_pack mg eg h1 h2, phaseMax24]

theorem tdiv24_in {lo hi x : Int} (h1 : lo * 24 ≤ x) (h2 : x ≤ hi * 24) :
    lo ≤ Int.tdiv x 24 ∧ Int.tdiv x 24 ≤ hi := by
  by_cases hx : 0 ≤ x
  · rw [Int.tdiv_eq_ediv_of_nonneg hx]; omega
  · have e : Int.tdiv x 24 = -((-x) / 24) := by
      rw [← Int.tdiv_eq_ediv_of_nonneg (by omega), Int.neg_tdiv, Int.neg_neg]
    rw [e]; omega

/-- a convex combination lies between its ends: `a w + b (24 - w) = 24 b + (a - b) w` and `0 ≤ w ≤ 24` -/
theorem weighted_in (a b w : Int) (hw0 : 0 ≤ w) (hw : w ≤ 24) :
    min a b * 24 ≤ a * w + b * (24 - w) ∧ a * w + b * (24 - w) ≤ max a b * 24 := by
  have e : a * w + b * (24 - w) = b * 24 + (a - b) * w := by
    rw [Int.mul_sub, Int.sub_mul]; omega
  rw [e]
  by_cases hab : a ≤ b
  · have h1 : (a - b) * w ≤ 0 := Int.mul_nonpos_of_nonpos_of_nonneg (by omega) hw0
    have h2 : (a - b) * 24 ≤ (a - b) * w := Int.mul_le_mul_of_nonpos_left (by omega) hw
    omega
  · have h1 : 0 ≤ (a - b) * w := Int.mul_nonneg (by omega) hw0
    have h2 : (a - b) * w ≤ (a - b) * 24 := Int.mul_le_mul_of_nonneg_left hw (by omega)
    omega

theorem blend_in (mg eg phase : Int) (hph : 0 ≤ phase) :
    min mg eg ≤ blend mg eg phase ∧ blend mg eg phase ≤ max mg eg :=
  have hw := weighted_in mg eg (min phase 24) (by omega) (by omega)
  tdiv24_in hw.1 hw.2

/-- the blend is odd because truncating division is -/
theorem blend_neg (mg eg phase : Int) : blend (-mg) (-eg) phase = -blend mg eg phase := by
  unfold blend
  rw [Int.neg_mul, Int.neg_mul, ← Int.neg_add, Int.neg_tdiv]

/-- no `i16::try_from(..).unwrap()` panic when both halves are `i16` -/
theorem forPhase_some (mg eg phase : Int) (hmg : -32768 ≤ mg ∧ mg ≤ 32767) (heg : -32768 ≤ eg ∧ eg ≤ 32767)
    (hph : 0 ≤ phase) : forPhase (pack mg eg) phase = some (blend mg eg phase) := by
  have hb := blend_in mg eg phase hph
  rw [forPhase_pack mg eg phase hmg.1 hmg.2, if_pos]
  unfold inI16
  simp only [Bool.and_eq_true, decide_eq_true_eq]
  omega

def Box (lo hi x : Int) : Prop := ∃ m e, x = pack m e ∧ lo ≤ m ∧ m ≤ hi ∧ lo ≤ e ∧ e ≤ hi

namespace Box
variable {a b c d x y : Int}

theorem zero : Box 0 0 0 := ⟨0, 0, rfl, by omega, by omega, by omega, by omega⟩

theorem ofPair {lo hi : Int} (v : Int × Int) (h : lo ≤ v.1 ∧ v.1 ≤ hi ∧ lo ≤ v.2 ∧ v.2 ≤ hi) : Box lo hi (packP v) :=
  ⟨v.1, v.2, rfl, h⟩

theorem add (hx : Box a b x) (hy : Box c d y) : Box (a + c) (b + d) (x + y) := by
  obtain ⟨m, e, rfl, _, _, _, _⟩ := hx
  obtain ⟨m', e', rfl, _, _, _, _⟩ := hy
  exact ⟨m + m', e + e', pack_add .., by omega, by omega, by omega, by omega⟩

theorem neg (hx : Box a b x) : Box (-b) (-a) (-x) := by
  obtain ⟨m, e, rfl, _, _, _, _⟩ := hx
  exact ⟨-m, -e, pack_neg .., by omega, by omega, by omega, by omega⟩

theorem sub (hx : Box a b x) (hy : Box c d y) : Box (a - d) (b - c) (x - y) := by
  simp only [Int.sub_eq_add_neg]
  exact hx.add hy.neg

theorem mono {a' b' : Int} (hx : Box a b x) (h1 : a' ≤ a) (h2 : b ≤ b') : Box a' b' x := by
  obtain ⟨m, e, rfl, _, _, _, _⟩ := hx
  exact ⟨m, e, rfl, by omega, by omega, by omega, by omega⟩

end Box

/-- `-32767`, not `-32768`: the negated pair has to be representable too -/
theorem forPhase_box {lo hi x : Int} (phase : Int) (h : Box lo hi x) (hlo : -32767 ≤ lo) (hhi : hi ≤ 32767)
    (hph : 0 ≤ phase) :
    ∃ v, forPhase x phase = some v ∧ forPhase (-x) phase = some (-v) ∧ lo ≤ v ∧ v ≤ hi := by
  obtain ⟨mg, eg, rfl, _, _, _, _⟩ := h
  have hb := blend_in mg eg phase hph
  refine ⟨blend mg eg phase, forPhase_some mg eg phase (by omega) (by omega) hph, ?_, by omega, by omega⟩
  rw [pack_neg, forPhase_some (-mg) (-eg) phase (by omega) (by omega) hph, blend_neg]

end Eval
end Tcheran
