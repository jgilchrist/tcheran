import TcheranVerif.Model.Eval
import TcheranVerif.Model.Draw
import TcheranVerif.Proofs.MakeTotal
import TcheranVerif.Proofs.GenerateNodup
/-!
# The game invariant: the decidable `Legal` predicate provides it, legal moves keep it (C01 / C02 along every game)

With consistent board views `GInv pos` gives the hypotheses `PosH` of `generate_exact` and
`make_move_legal_total` (`posH_of_ginv`); the `Legal` predicate of the quantifier gives it (`legalPos_parts`), and
every legal move of the rules keeps it (`ginv_apply`).

A move is described once by what it does to the mailbox (`Change`: source, destination, a few extra squares,
everything else untouched), in two cases: the move of a man (`applyBoard_piece`; the extra square is that of a
pawn taken en passant) and castling.  The clauses of the invariant are read off that description
(`ginv_of_change`): the kings by `Change.king`, the castling rights by `Change.rights`, which rests on the closed
form `has_rightsAfter` of what a move does to the rights.  The e.p. clause is `epOk_apply`.

`legal_step` is what one legal move gives the engine state; `along_game` iterates it.  Every statement
"along every game of legal moves" is `along_game` with its own invariant: `game_stepInv` for what every primitive
of `make_move` keeps (`game_refines`, `game_sync`), that of C11 (`game_history`) and that of C16.
-/

namespace Tcheran
open Board Game Rules

theorem king_of_count (b : RBoard) (p : Player) (h : Rules.count b (· == ⟨.king, p⟩) = 1) :
    ∃ k, ∀ s, at' b s = some ⟨.king, p⟩ ↔ s = k := by
  obtain ⟨k, hk⟩ := List.length_eq_one_iff.1 h
  refine ⟨k, fun s => ?_⟩
  rw [← List.mem_singleton (a := s), ← hk, List.mem_filter]
  simp only [List.mem_finRange, true_and]
  cases at' b s <;> simp

structure GInv (pos : Pos) : Prop where
  king : ∀ pl, ∃ k, ∀ s, at' pos.board s = some ⟨.king, pl⟩ ↔ s = k
  safe : inCheck pos.board pos.player.other = false
  ep : EpOk pos.board pos.player pos.ep
  rightK : ∀ pl, (pos.rights.forP pl).kingSide = true →
    at' pos.board (kingStart pl) = some ⟨.king, pl⟩ ∧ at' pos.board (kingsideRookStart pl) = some ⟨.rook, pl⟩
  rightQ : ∀ pl, (pos.rights.forP pl).queenSide = true →
    at' pos.board (kingStart pl) = some ⟨.king, pl⟩ ∧ at' pos.board (queensideRookStart pl) = some ⟨.rook, pl⟩

/-- the two rights clauses as one, over `Rights.has` -/
theorem GInv.of_has {pos : Pos} (king : ∀ pl, ∃ k, ∀ s, at' pos.board s = some ⟨.king, pl⟩ ↔ s = k)
    (safe : inCheck pos.board pos.player.other = false) (ep : EpOk pos.board pos.player pos.ep)
    (right : ∀ pl sd, Rights.has pos.rights pl sd = true →
      at' pos.board (kingStart pl) = some ⟨.king, pl⟩ ∧ at' pos.board (rookHome pl sd) = some ⟨.rook, pl⟩) :
    GInv pos :=
  ⟨king, safe, ep, fun pl => right pl .king, fun pl => right pl .queen⟩

theorem posH_of_ginv (g : Game) (hc : Consistent g.board) (h : GInv (ofGame g)) : ∃ k, PosH g k := by
  obtain ⟨k, hk⟩ := h.king g.player
  refine ⟨k, ⟨hc, hk⟩, h.ep, ?_, ?_⟩
  · intro hr
    obtain ⟨a, b⟩ := h.rightK g.player hr
    exact ⟨((hk _).1 a).symm, b⟩
  · intro hr
    obtain ⟨a, b⟩ := h.rightQ g.player hr
    exact ⟨((hk _).1 a).symm, b⟩

theorem legalPos_parts (pos : Pos) (hl : legalPos pos = true) :
    GInv pos ∧ ∀ pl, count pos.board (ofColour pl) ≤ 16 := by
  unfold legalPos at hl
  simp only [Bool.and_eq_true, decide_eq_true_eq] at hl
  obtain ⟨⟨⟨⟨⟨⟨⟨⟨hkings, _⟩, hsafe⟩, hrights⟩, hep⟩, hmw⟩, hmb⟩, _⟩, _⟩ := hl
  simp only [beq_iff_eq] at hkings
  refine ⟨.of_has ?_ ?_ ?_ ?_, ?_⟩
  · intro pl
    cases pl
    · exact king_of_count _ _ hkings.1
    · exact king_of_count _ _ hkings.2
  · simpa using hsafe
  · intro t het
    rw [het] at hep
    simp only [Bool.and_eq_true] at hep
    exact ⟨Option.isNone_iff_eq_none.1 hep.1.1.2, (isPiece_iff _ _ _ _).1 hep.1.2⟩
  · intro pl sd hr
    cases pl <;> cases sd
    · simpa [hr, rookHome] using hrights.1.1.1
    · simpa [hr, rookHome] using hrights.1.1.2
    · simpa [hr, rookHome] using hrights.1.2
    · simpa [hr, rookHome] using hrights.2
  · intro pl
    cases pl
    · exact hmw.1
    · exact hmb.1

theorem ginv_of_legal (pos : Pos) (hl : legalPos pos = true) : GInv pos := (legalPos_parts pos hl).1

theorem posH_of_legal (g : Game) (hc : Consistent g.board) (hl : legalPos (ofGame g) = true) :
    ∃ k, PosH g k := posH_of_ginv g hc (ginv_of_legal _ hl)

/-- a step `δ` is undone by `-δ` (`offset_neg`), a ray by the opposite ray (`Geo.ray_symm`) -/
theorem reaches_symm {b : RBoard} {k : PieceKind} {s t : Sq} (h : Reaches b k s t) : Reaches b k t s := by
  have hstep : ∀ deltas : List (Int × Int), (∀ δ ∈ deltas, (-δ.1, -δ.2) ∈ deltas) →
      (∃ d ∈ deltas, offset s d.1 d.2 = some t) → ∃ d ∈ deltas, offset t d.1 d.2 = some s :=
    fun deltas hneg ⟨d, hd, ho⟩ => ⟨_, hneg d hd, offset_neg s t _ _ ho⟩
  have hslide : ∀ F : List Dir, (∀ d ∈ F, d.opp ∈ F) →
      (∃ d ∈ F, t ∈ Geometry.seen (occOf b) (ray d s)) → ∃ d ∈ F, s ∈ Geometry.seen (occOf b) (ray d t) := by
    rintro F hF ⟨d, hd, ht⟩
    obtain ⟨htr, hemp⟩ := (mem_seen_ray _ s t d).1 ht
    exact ⟨d.opp, hF d hd, (mem_seen_ray _ t s d.opp).2
      ⟨Geo.ray_symm htr, fun x hx => hemp x (Geo.mem_betweenList_comm.1 hx)⟩⟩
  rcases h with ⟨hk, h⟩ | ⟨hk, h⟩ | ⟨hk, h⟩ | ⟨hk, h⟩
  · exact Or.inl ⟨hk, hstep _ knight_neg h⟩
  · exact Or.inr (Or.inl ⟨hk, hstep _ king_neg h⟩)
  · exact Or.inr (Or.inr (Or.inl ⟨hk, hslide _ (fun d => (Geo.opp_diagonal d).2) h⟩))
  · exact Or.inr (Or.inr (Or.inr ⟨hk, hslide _ (fun d => (Geo.opp_cardinal d).2) h⟩))

/-- `AttacksFrom` looks from the target back to the attacker, the move generator of the rules from the mover
forward. -/
theorem capture_attacks (pos : Pos) (s : Sq) (pc : Piece) (m : Move) (ha : at' pos.board s = some pc)
    (hp : pc.player = pos.player) (hm : m ∈ pieceMoves pos s pc)
    (hcap : ∃ X, at' pos.board m.dst = some X) : AttacksFrom pos.board pos.player s m.dst := by
  obtain ⟨kk, pl⟩ := pc
  cases hp
  refine ⟨kk, ha, ?_⟩
  by_cases hk : kk = .pawn
  · rw [pieceMoves_pawn pos s hk] at hm
    obtain ⟨_, ⟨_, he, _⟩ | ⟨_, df, hdf, ho, _⟩⟩ := pawn_shape pos s m hm
    · -- a push lands on an empty square
      obtain ⟨X, hX⟩ := hcap
      rw [he] at hX
      cases hX
    · have hback := offset_neg s m.dst df (fwd pos.player) ho
      simp only [List.mem_cons, List.mem_nil_iff, or_false] at hdf
      rcases hdf with rfl | rfl
      · exact Or.inl ⟨hk, Or.inr hback⟩
      · exact Or.inl ⟨hk, Or.inl hback⟩
  · obtain ⟨t, hr, hl⟩ := nonpawn_move pos s _ m hk hm
    rw [(Lands.plain hl).2.1]
    exact Or.inr (reaches_symm hr)

theorem dst_not_enemy_king (pos : Pos) (h : GInv pos) (s : Sq) (pc : Piece) (m : Move)
    (ha : at' pos.board s = some pc) (hp : pc.player = pos.player) (hm : m ∈ pieceMoves pos s pc) :
    at' pos.board m.dst ≠ some ⟨.king, pos.player.other⟩ := by
  intro hk
  obtain ⟨kE, hkE⟩ := h.king pos.player.other
  have hat := capture_attacks pos s pc m ha hp hm ⟨_, hk⟩
  have hatt : attacked pos.board pos.player m.dst = true := (attacked_iff _ _ _).2 ⟨s, hat⟩
  have hs := h.safe
  rw [inCheck_of_kingSq (kingSq_unique _ _ kE hkE), other_other, ← (hkE _).1 hk, hatt] at hs
  cases hs

/-- `Ext` holds the squares touched besides source and destination; there are three kinds, the alternatives of
`ext_old`: the castling rook's home square, the empty square it goes to, and the square of a pawn taken en
passant.  None holds a king before or after, and only the first a man whose presence a castling right asserts. -/
structure Change (b nb : RBoard) (p : Player) (M : Piece) (src dst : Sq) (Ext : Sq → Prop) : Prop where
  hsrc : at' b src = some M
  hMp : M.player = p
  hne : src ≠ dst
  old_dst : ∀ X, at' b dst = some X → X.player = p.other ∧ X.kind ≠ .king
  new_src : at' nb src = none
  new_dst : ∃ Y, at' nb dst = some Y ∧ Y.player = p ∧ (Y.kind = .king ↔ M.kind = .king)
  ext_ne : ∀ x, Ext x → x ≠ src ∧ x ≠ dst
  ext_old : ∀ x, Ext x → (at' b x = some ⟨.rook, p⟩ ∧ M.kind = .king ∧ src = kingStart p) ∨
      (at' b x = none ∧ M.kind = .king ∧ src = kingStart p) ∨ at' b x = some ⟨.pawn, p.other⟩
  ext_new : ∀ x, Ext x → at' nb x = none ∨ at' nb x = some ⟨.rook, p⟩
  off : ∀ x, x ≠ src → x ≠ dst → ¬ Ext x → at' nb x = at' b x

theorem Change.cases {b nb : RBoard} {p : Player} {M : Piece} {src dst : Sq} {Ext : Sq → Prop}
    (c : Change b nb p M src dst Ext) (x : Sq) :
    x = dst ∨ x = src ∨ Ext x ∨ (x ≠ src ∧ x ≠ dst ∧ at' nb x = at' b x) := by
  by_cases h2 : x = dst
  · exact Or.inl h2
  · by_cases h1 : x = src
    · exact Or.inr (Or.inl h1)
    · by_cases h3 : Ext x
      · exact Or.inr (Or.inr (Or.inl h3))
      · exact Or.inr (Or.inr (Or.inr ⟨h1, h2, c.off x h1 h2 h3⟩))

/-- `hu`: the mover had one king -/
theorem Change.king {b nb : RBoard} {p : Player} {M : Piece} {src dst : Sq} {Ext : Sq → Prop}
    (c : Change b nb p M src dst Ext)
    (hu : M.kind = .king → ∀ s, at' b s = some ⟨.king, p⟩ → s = src) (pl : Player) (x : Sq) :
    at' nb x = some ⟨.king, pl⟩ ↔ if pl = p ∧ M.kind = .king then x = dst else at' b x = some ⟨.king, pl⟩ := by
  obtain ⟨Y, hY, hYp, hYk⟩ := c.new_dst
  rcases c.cases x with rfl | rfl | h3 | ⟨h1, h2, e⟩
  · rw [hY, Option.some.injEq, piece_eq, hYp, hYk]
    split
    · rename_i h; exact ⟨fun _ => rfl, fun _ => ⟨h.2, h.1.symm⟩⟩
    · rename_i h
      exact ⟨fun e => absurd ⟨e.2.symm, e.1⟩ h, fun e => absurd rfl (c.old_dst _ e).2⟩
  · rw [c.new_src, c.hsrc, Option.some.injEq, piece_eq, c.hMp]
    split
    · exact ⟨fun e => (by cases e), fun e => absurd e c.hne⟩
    · rename_i h
      exact ⟨fun e => (by cases e), fun e => absurd ⟨e.2.symm, e.1⟩ h⟩
  · have hn : at' nb x ≠ some ⟨.king, pl⟩ := by
      rcases c.ext_new x h3 with e | e <;> rw [e] <;> intro h <;> cases h
    have ho : at' b x ≠ some ⟨.king, pl⟩ := by
      rcases c.ext_old x h3 with ⟨o, _⟩ | ⟨o, _⟩ | o <;> rw [o] <;> intro h <;> cases h
    split
    · exact ⟨fun e => absurd e hn, fun e => absurd e (c.ext_ne x h3).2⟩
    · exact ⟨fun e => absurd e hn, fun e => absurd e ho⟩
  · rw [e]
    split
    · rename_i h
      exact ⟨fun e => absurd (hu h.2 x (h.1 ▸ e)) h1, fun e => absurd e h2⟩
    · exact Iff.rfl

theorem Change.home_kept {b nb : RBoard} {p : Player} {M : Piece} {src dst : Sq} {Ext : Sq → Prop}
    (c : Change b nb p M src dst Ext) (pl : Player) (K : PieceKind) (hK : K = .king ∨ K = .rook)
    (hsq : Sq) (hat : at' b hsq = some ⟨K, pl⟩)
    (hown : pl = p → ¬ (M.kind = .king ∧ src = kingStart p) ∧ ¬ (M.kind = K ∧ src = hsq))
    (hoth : pl = p.other → K = .rook → ¬ ((at' b dst).isSome = true ∧ dst = hsq)) :
    at' nb hsq = some ⟨K, pl⟩ := by
  rcases c.cases hsq with rfl | rfl | h3 | ⟨_, _, e⟩
  · -- on the destination: captured
    exfalso
    obtain ⟨hXp, hXk⟩ := c.old_dst _ hat
    rcases hK with e | e
    · exact hXk e
    · exact hoth hXp e ⟨by rw [hat]; rfl, rfl⟩
  · -- on the source: it is the mover
    exfalso
    cases c.hsrc.symm.trans hat
    exact (hown c.hMp).2 ⟨rfl, rfl⟩
  · -- an extra square holds the castling rook, nothing, or a pawn
    exfalso
    rcases c.ext_old hsq h3 with ⟨o, hk, hs⟩ | ⟨o, _⟩ | o
    · cases o.symm.trans hat
      exact (hown rfl).1 ⟨hk, hs⟩
    · cases o.symm.trans hat
    · cases o.symm.trans hat
      rcases hK with e | e <;> cases e
  · rw [e]
    exact hat

theorem Change.rights {b nb : RBoard} {p : Player} {M : Piece} {m : Move} {Ext : Sq → Prop}
    (c : Change b nb p M m.src m.dst Ext) [DecidablePred Ext] (r : Rights)
    (hK : ∀ pl, (r.forP pl).kingSide = true →
      at' b (kingStart pl) = some ⟨.king, pl⟩ ∧ at' b (kingsideRookStart pl) = some ⟨.rook, pl⟩)
    (hQ : ∀ pl, (r.forP pl).queenSide = true →
      at' b (kingStart pl) = some ⟨.king, pl⟩ ∧ at' b (queensideRookStart pl) = some ⟨.rook, pl⟩)
    (pl : Player) (sd : Side) (h : Rights.has (rightsAfter' r p m M (at' b m.dst)) pl sd = true) :
    at' nb (kingStart pl) = some ⟨.king, pl⟩ ∧
    at' nb (rookHome pl sd) = some ⟨.rook, pl⟩ := by
  rw [has_rightsAfter] at h
  simp only [Bool.and_eq_true, Bool.not_eq_true', Bool.and_eq_false_iff, Bool.or_eq_false_iff,
    decide_eq_false_iff_not] at h
  obtain ⟨⟨hr, hmover⟩, hcapt⟩ := h
  have hold : at' b (kingStart pl) = some ⟨.king, pl⟩ ∧ at' b (rookHome pl sd) = some ⟨.rook, pl⟩ := by
    cases sd
    · exact hK pl hr
    · exact hQ pl hr
  have hown : pl = p → ¬ (M.kind = .king ∧ m.src = kingStart p) ∧ ¬ (M.kind = .rook ∧ m.src = rookHome pl sd) := by
    intro e
    subst e
    obtain hne | ⟨hk, hrk⟩ := hmover
    · exact absurd rfl hne
    · exact ⟨hk, fun ⟨a, b⟩ => hrk.elim (· a) (· b)⟩
  have hoth : pl = p.other → ¬ ((at' b m.dst).isSome = true ∧ m.dst = rookHome pl sd) := by
    rintro e ⟨a, b⟩
    subst e
    rcases hcapt with (hne | hn) | hn
    · exact hne rfl
    · rw [a] at hn; cases hn
    · exact hn b
  refine ⟨c.home_kept pl .king (Or.inl rfl) _ hold.1 (fun e => ?_) (fun _ e => by cases e),
    c.home_kept pl .rook (Or.inr rfl) _ hold.2 hown (fun e _ => hoth e)⟩
  have hk := (hown e).1
  subst e
  exact ⟨hk, hk⟩

theorem ginv_of_change (pos : Pos) (m : Move) (M : Piece) (Ext : Sq → Prop) [DecidablePred Ext] (h : GInv pos)
    (c : Change pos.board (applyBoard pos.board pos.player m) pos.player M m.src m.dst Ext)
    (hlegal : inCheck (applyBoard pos.board pos.player m) pos.player = false)
    (hep : EpOk (applyBoard pos.board pos.player m) pos.player.other (Rules.apply pos m).ep) :
    GInv (Rules.apply pos m) := by
  have hr := apply_rights pos m M c.hsrc c.hMp
  refine .of_has (fun pl => ?_) ?_ hep fun pl sd hk => c.rights pos.rights h.rightK h.rightQ pl sd (hr ▸ hk)
  · obtain ⟨k, hk⟩ := h.king pl
    obtain ⟨kp, hkp⟩ := h.king pos.player
    have hu : M.kind = .king → ∀ s, at' pos.board s = some ⟨.king, pos.player⟩ → s = m.src := fun hM s hs => by
      have : M = ⟨.king, pos.player⟩ := piece_eq.2 ⟨hM, c.hMp⟩
      rw [(hkp s).1 hs, ← (hkp m.src).1 (this ▸ c.hsrc)]
    refine ⟨if pl = pos.player ∧ M.kind = .king then m.dst else k, fun s => ?_⟩
    show at' (applyBoard pos.board pos.player m) s = _ ↔ _
    rw [c.king hu pl s]
    split
    · exact Iff.rfl
    · exact hk s
  · show inCheck (applyBoard pos.board pos.player m) pos.player.other.other = false
    rw [other_other]
    exact hlegal

/-- a pawn move that advances two ranks is the double push (`pawn_two_ranks`); the target is the empty square
passed over, and the pushed pawn stands behind it -/
theorem epOk_apply (pos : Pos) (m : Move) (hl : m ∈ legalMoves pos) :
    EpOk (applyBoard pos.board pos.player m) pos.player.other (Rules.apply pos m).ep := by
  intro t het
  rw [apply_ep_eq] at het
  split at het
  · rename_i hc
    split at het
    · simp only [Bool.and_eq_true, decide_eq_true_eq] at hc
      obtain ⟨⟨hpawn, _⟩, hrk⟩ := hc
      obtain ⟨pc, ha, hk⟩ := (Option.any_eq_true _ _).1 hpawn
      obtain ⟨rfl, hm⟩ := legal_pawn pos m hl pc ha (by simpa using hk)
      obtain ⟨t1, ho1, he1, ho2, e⟩ := pawn_two_ranks pos m.src m hm hrk
      obtain ⟨hvv, h1s, h12, _⟩ := double_step_squares m.src t1 m.dst pos.player ho1 ho2
      have hat := applyBoard_plain pos.board pos.player m _ (by rw [e]; exact plain_quiet _ _) ha
      rw [ho1] at het
      cases het
      refine ⟨?_, m.dst, hvv, ?_⟩
      · rw [hat, if_neg h12, if_neg h1s]
        exact he1
      · rw [hat, if_pos rfl, other_other, placedPiece, show m.promotion = none by rw [e]; rfl]
    · cases het
  · cases het

theorem ginv_apply (pos : Pos) (m : Move) (h : GInv pos) (hl : m ∈ legalMoves pos) : GInv (Rules.apply pos m) := by
  have hlegal := ((mem_legalMoves_iff pos m).1 hl).2
  have hep := epOk_apply pos m hl
  obtain ⟨pc, ha, hp, hm | ⟨rfl, rf, rt, cm⟩⟩ := legal_src pos m hl
  · -- a man moves: the one extra square is that of a pawn taken en passant; what is captured is not a king
    -- (`dst_not_enemy_king`)
    have pm := piece_move_facts pos m.src pc m hm
    have hne := pm.ne ha hp
    have hat := applyBoard_piece pos.board pos.player m pc pm.nc ha
    have hvictim : ∀ x, m.isEnPassant = true ∧ offset m.dst 0 (-(fwd pos.player)) = some x →
        at' pos.board x = some ⟨.pawn, pos.player.other⟩ ∧ x ≠ m.src ∧ x ≠ m.dst :=
      fun x hx => pm.victim h.ep hx.1 hx.2
    have hplk : (placedPiece m pos.player pc).player = pos.player ∧
        ((placedPiece m pos.player pc).kind = .king ↔ pc.kind = .king) := by
      unfold placedPiece
      cases hpr : m.promotion with
      | none => exact ⟨hp, Iff.rfl⟩
      | some pr =>
        have hk := pm.promo (by rw [hpr]; rfl)
        exact ⟨rfl, fun e => absurd e (promo_piece_ne_king pr), fun e => by rw [hk] at e; cases e⟩
    exact ginv_of_change pos m pc _ h
      { hsrc := ha, hMp := hp, hne := hne
        old_dst := fun X hX => by
          have hXo : X.player = pos.player.other := ne_iff_other.1 (pm.own X hX)
          exact ⟨hXo, fun hk => dst_not_enemy_king pos h m.src pc m ha hp hm (piece_eq.2 ⟨hk, hXo⟩ ▸ hX)⟩
        new_src := by rw [hat, if_neg (fun e => (hvictim _ e).2.1 rfl), if_neg hne, if_pos rfl]
        new_dst := ⟨_, by rw [hat, if_neg (fun e => (hvictim _ e).2.2 rfl), if_pos rfl], hplk.1, hplk.2⟩
        ext_ne := fun x hx => (hvictim x hx).2
        ext_old := fun x hx => Or.inr (Or.inr (hvictim x hx).1)
        ext_new := fun x hx => Or.inl (by rw [hat, if_pos hx])
        off := fun x h1 h2 h3 => by rw [hat, if_neg h3, if_neg h2, if_neg h1] } hlegal hep
  · -- castling: the extra squares are the rook's, `rf` and `rt`
    have hms := cm.src
    have hat := applyBoard_castle pos.board pos.player _ m.dst rf rt cm.king cm.squares
    rw [← cm.eq] at hat
    exact ginv_of_change pos m ⟨.king, pos.player⟩ (fun x => x = rf ∨ x = rt) h
      { hsrc := ha
        hMp := rfl
        hne := by rw [hms]; exact cm.ks_dst
        old_dst := fun X hX => by rw [cm.dst_empty] at hX; cases hX
        new_src := by
          rw [hat, hms, if_neg (Ne.symm cm.rt_ks), if_neg (Ne.symm cm.rf_ks), if_neg cm.ks_dst, if_pos rfl]
        new_dst := ⟨⟨.king, pos.player⟩,
          by rw [hat, if_neg (Ne.symm cm.rt_dst), if_neg (Ne.symm cm.rf_dst), if_pos rfl], rfl, Iff.rfl⟩
        ext_ne := fun x hx => by
          rw [hms]
          rcases hx with e | e <;> rw [e]
          · exact ⟨cm.rf_ks, cm.rf_dst⟩
          · exact ⟨cm.rt_ks, cm.rt_dst⟩
        ext_old := fun x hx => by
          rcases hx with e | e <;> rw [e]
          · exact Or.inl ⟨cm.rook, rfl, hms⟩
          · exact Or.inr (Or.inl ⟨cm.rt_empty, rfl, hms⟩)
        ext_new := fun x hx => by
          rcases hx with e | e <;> rw [e]
          · left; rw [hat, if_neg cm.rf_rt, if_pos rfl]
          · right; rw [hat, if_pos rfl]
        off := fun x h1 h2 h3 => by
          rw [hms] at h1
          rw [hat, if_neg (fun e => h3 (Or.inr e)), if_neg (fun e => h3 (Or.inl e)), if_neg h2, if_neg h1] }
      hlegal hep

inductive LegalPath : Pos → List Move → Pos → Prop
  | nil (pos : Pos) : LegalPath pos [] pos
  | cons (pos : Pos) (m : Move) (ms : List Move) (pos' : Pos) :
      m ∈ legalMoves pos → LegalPath (Rules.apply pos m) ms pos' → LegalPath pos (m :: ms) pos'

theorem ginv_path (pos pos' : Pos) (ms : List Move) (h : GInv pos) (hp : LegalPath pos ms pos') : GInv pos' := by
  induction hp with
  | nil _ => exact h
  | cons pos m ms pos' hl _ ih => exact ih (ginv_apply pos m h hl)

def makeMoves (c : Cfg) : Game → List Move → Option Game
  | g, [] => some g
  | g, m :: ms => (makeMove c g m).bind fun g' => makeMoves c g' ms

/-- the last conjunct: whatever every primitive of `make_move` keeps, such as agreement of the views and `Sync` -/
theorem legal_step (c : Cfg) (g : Game) (m : Move) (hc : Consistent g.board) (h : GInv (ofGame g))
    (hl : m ∈ legalMoves (ofGame g)) :
    ∃ g', makeMove c g m = some g' ∧ ofGame g' = Rules.apply (ofGame g) m ∧ GInv (ofGame g') ∧
      ∀ I, StepInv c I → I g → I g' := by
  obtain ⟨k, hk⟩ := posH_of_ginv g hc h
  obtain ⟨g', hg', hr⟩ := make_move_legal_total c g k hk m hl
  exact ⟨g', hg', hr, hr ▸ ginv_apply _ m h hl,
    fun I hI hg => hI.makeMove g g' m hg hg' (moveOk_of_legal g h.ep m hl).1.castleRoom⟩

def trail : Pos → List Move → List Pos → List Pos
  | _, [], acc => acc
  | pos, m :: ms, acc => trail (Rules.apply pos m) ms (pos :: acc)

theorem along_game (c : Cfg) (J : List Pos → Game → Prop)
    (step : ∀ e g m, J e g → m ∈ legalMoves (ofGame g) →
      ∃ g', makeMove c g m = some g' ∧ ofGame g' = Rules.apply (ofGame g) m ∧ J (ofGame g :: e) g')
    (e : List Pos) (g : Game) (ms : List Move) (pos' : Pos) (h : J e g) (hp : LegalPath (ofGame g) ms pos') :
    ∃ g', makeMoves c g ms = some g' ∧ ofGame g' = pos' ∧ J (trail (ofGame g) ms e) g' := by
  generalize hpos : ofGame g = pos at hp
  induction hp generalizing g e with
  | nil _ => exact ⟨g, rfl, hpos, h⟩
  | cons pos m ms pos' hl _ ih =>
    subst hpos
    obtain ⟨g1, hg1, hr, h1⟩ := step e g m h hl
    obtain ⟨g', hg', r⟩ := ih _ g1 h1 hr
    exact ⟨g', by rw [makeMoves, hg1]; exact hg', r⟩

theorem game_stepInv (c : Cfg) {I : Game → Prop} (hI : StepInv c I) (hIc : ∀ g, I g → Consistent g.board)
    (g : Game) (ms : List Move) (pos' : Pos) (hi : I g) (h : GInv (ofGame g)) (hp : LegalPath (ofGame g) ms pos') :
    ∃ g', makeMoves c g ms = some g' ∧ ofGame g' = pos' ∧ I g' ∧ GInv (ofGame g') :=
  along_game c (fun _ g => I g ∧ GInv (ofGame g))
    (fun _ g m h hl => by
      obtain ⟨g', a, b, d, k⟩ := legal_step c g m (hIc g h.1) h.2 hl
      exact ⟨g', a, b, k I hI h.1, d⟩) [] g ms pos' ⟨hi, h⟩ hp

theorem game_refines (c : Cfg) (g : Game) (ms : List Move) (pos' : Pos) (hc : Consistent g.board)
    (h : GInv (ofGame g)) (hp : LegalPath (ofGame g) ms pos') :
    ∃ g', makeMoves c g ms = some g' ∧ ofGame g' = pos' ∧ Consistent g'.board ∧ GInv (ofGame g') :=
  game_stepInv c (stepInv_consistent c) (fun _ h => h) g ms pos' hc h hp

theorem game_generate_exact (T : SliderTables) (c : Cfg) (g : Game) (ms : List Move) (pos' : Pos)
    (hc : Consistent g.board) (hl : legalPos (ofGame g) = true) (hp : LegalPath (ofGame g) ms pos') :
    ∃ g', makeMoves c g ms = some g' ∧ ofGame g' = pos' ∧
      ∃ caps cache quiets, generateCaptures g' = some (caps, cache) ∧ generateQuiets g' cache = some quiets ∧
        (caps ++ quiets).Nodup ∧ ∀ m, m ∈ caps ++ quiets ↔ m ∈ legalMoves pos' := by
  obtain ⟨g', hg', e, hc', hi'⟩ := game_refines c g ms pos' hc (ginv_of_legal _ hl) hp
  obtain ⟨k, hk⟩ := posH_of_ginv g' hc' hi'
  obtain ⟨caps, cache, quiets, h1, h2, h3⟩ := generate_exact T g' k hk
  refine ⟨g', hg', e, caps, cache, quiets, h1, h2, generate_nodup T g' k hk caps cache quiets h1 h2, ?_⟩
  rw [← e]; exact h3

/-- C03 / C15 along games -/
theorem game_sync (c : Cfg) (g : Game) (ms : List Move) (pos' : Pos) (hs : Sync c g)
    (h : GInv (ofGame g)) (hp : LegalPath (ofGame g) ms pos') :
    ∃ g', makeMoves c g ms = some g' ∧ ofGame g' = pos' ∧ Sync c g' :=
  (game_stepInv c (stepInv_sync c) (fun _ h => h.cons) g ms pos' hs h hp).imp fun _ h => ⟨h.1, h.2.1, h.2.2.1⟩

def posKey (c : Cfg) (p : Pos) : BB := fullHash c (Board.ofSquares p.board) p.player p.rights p.ep

theorem key_ofGame (c : Cfg) (g : Game) (hs : Sync c g) : g.zobrist = posKey c (ofGame g) := by
  unfold posKey ofGame
  simp only
  rw [consistent_ext _ _ (consistent_ofSquares _) hs.cons rfl]
  exact hs.key

/-- C11, with C02 / C03: the `zobrist` fields of the history stack are, entry for entry and most recent first, the
keys of the rules' positions the game went through; this is the hypothesis `hkeys` of `Props.C11.repeated_exact` -/
theorem game_history (c : Cfg) (g : Game) (ms : List Move) (pos' : Pos) (earlier : List Pos) (hs : Sync c g)
    (h : GInv (ofGame g)) (hp : LegalPath (ofGame g) ms pos')
    (hh : g.history.map (·.zobrist) = earlier.map (posKey c)) :
    ∃ g', makeMoves c g ms = some g' ∧ ofGame g' = pos' ∧ Sync c g' ∧
      g'.history.map (·.zobrist) = (trail (ofGame g) ms earlier).map (posKey c) := by
  obtain ⟨g', h1, h2, h3, _, h4⟩ := along_game c
    (fun e g => Sync c g ∧ GInv (ofGame g) ∧ g.history.map (·.zobrist) = e.map (posKey c))
    (fun e g m ⟨hs, h, hh⟩ hl => by
      obtain ⟨g', a, b, d, k⟩ := legal_step c g m hs.cons h hl
      refine ⟨g', a, b, k _ (stepInv_sync c) hs, d, ?_⟩
      rw [makeMove_history c g g' m a, List.map_cons, List.map_cons, hh, ← key_ofGame c g hs])
    earlier g ms pos' ⟨hs, h, hh⟩ hp
  exact ⟨g', h1, h2, h3, h4⟩

theorem samePosition_key (c : Cfg) (a b : Pos) (h : samePosition a b = true) : posKey c a = posKey c b := by
  unfold samePosition at h
  simp only [Bool.and_eq_true, beq_iff_eq] at h
  obtain ⟨⟨⟨h1, h2⟩, h3⟩, h4⟩ := h
  unfold posKey
  rw [h1, h2, h3, h4]

/-! `SInv g` is what the `position` command, the search and the evaluation along games carry from state to state:
kept by `make_move` on every legal move (`sinv_make`, which is `legal_step` with the pair put together) and by a
null move out of check (`sinv_null`). -/

namespace Search

def SInv (g : Game) : Prop := Consistent g.board ∧ GInv (ofGame g)

theorem sinv_make (g g' : Game) (m : Move) (h : SInv g) (hl : m ∈ legalMoves (ofGame g))
    (hm : makeMove theCfg g m = some g') : SInv g' ∧ ofGame g' = Rules.apply (ofGame g) m := by
  obtain ⟨g1, hg1, hr, hi, k⟩ := legal_step theCfg g m h.1 h.2 hl
  cases hm.symm.trans hg1
  exact ⟨⟨k _ (stepInv_consistent theCfg) h.1, hi⟩, hr⟩

theorem make_total_legal (g : Game) (m : Move) (h : SInv g) (hl : m ∈ legalMoves (ofGame g)) :
    ∃ g', makeMove theCfg g m = some g' :=
  (legal_step theCfg g m h.1 h.2 hl).imp fun _ h => h.1

theorem ofGame_null (g : Game) : ofGame (makeNull theCfg g) =
    { ofGame g with player := g.player.other, ep := none, plies := g.plies + 1 } := rfl

theorem sinv_null (g : Game) (h : SInv g) (hchk : inCheck g.board.squares g.player = false) :
    SInv (makeNull theCfg g) := by
  obtain ⟨hc, hi⟩ := h
  refine ⟨hc, ?_⟩
  rw [ofGame_null]
  refine ⟨hi.king, ?_, epOk_none _ _, hi.rightK, hi.rightQ⟩
  show inCheck g.board.squares g.player.other.other = false
  rw [other_other]; exact hchk

theorem kingInCheck_sinv (T : SliderTables) (g : Game) (h : SInv g) :
    kingInCheck g.board g.player = some (inCheck g.board.squares g.player) := by
  obtain ⟨k, hk⟩ := h.2.king g.player
  exact kingInCheck_agrees T g.board h.1 g.player k (kingSq_unique _ _ k hk)

end Search

end Tcheran
