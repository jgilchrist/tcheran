import TcheranVerif.Model.UciCtl
/-!
# The checkers of `Model/UciCtl.lean` hold over the whole (finite) state space of the controller
(9,248 states × 11 events)
-/
namespace Tcheran.UciCtlFinite
open Tcheran.UciCtl

theorem inv_init : Inv init = true := by decide

/-- One declaration: inside it the kernel keeps the enumeration `allStates` and the value of `Inv s` for
    each state, which every statement on its own would compute again. -/
theorem finite_checks : invPreserved = true ∧ noDeadlock = true ∧ blockedWithNoThreadsResumes = true ∧
    isreadyAlwaysServed = true ∧ goAnswered = true := by decide +kernel

theorem inv_preserved_all : invPreserved = true := finite_checks.1

theorem no_deadlock_all : noDeadlock = true := finite_checks.2.1

theorem blocked_without_threads_resumes_all : blockedWithNoThreadsResumes = true := finite_checks.2.2.1

theorem isready_always_served_all : isreadyAlwaysServed = true := finite_checks.2.2.2.1

theorem go_answered_all : goAnswered = true := finite_checks.2.2.2.2

/-- The progress measure needs no invariant and no enumeration: a step moves the stepping thread one
    program counter on, so its `remaining` falls by one (from `latchSet` the thread is gone), and it
    writes neither the other thread nor `main`. -/
theorem threadStep_rank (s s' : State) (i : Bool) (h : threadStep s i = some s') :
    rank s' < rank s ∧ s'.main = s.main := by
  revert s'
  obtain ⟨m, c, l, a, b⟩ := s
  cases i
  · rcases a with _ | ⟨pc, inf, f⟩
    · simp [threadStep]
    · cases pc
      case latchSet => by_cases hc : c = .t0 <;> simp [threadStep, rank, remaining, hc]
      all_goals simp [threadStep, rank, remaining]
  · rcases b with _ | ⟨pc, inf, f⟩
    · simp [threadStep]
    · cases pc
      case latchSet => by_cases hc : c = .t1 <;> simp [threadStep, rank, remaining, hc]
      all_goals simp [threadStep, rank, remaining]

theorem thread_steps_decrease_all : threadStepsDecrease = true :=
  List.all_eq_true.2 fun s _ => List.all_eq_true.2 fun i _ => by
    cases h : threadStep s i with
    | none => rfl
    | some s' => simpa using threadStep_rank s s' i h

end Tcheran.UciCtlFinite
