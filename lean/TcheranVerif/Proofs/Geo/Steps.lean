import TcheranVerif.Proofs.Geo.Line
/-!
# `offset` in coordinates: the steps of knights, kings and pawns

`offset_iff` turns `offset s df dr = some t` into two linear equations between files and ranks. What the
proofs about moves need to know about pawn, knight and king steps is then linear arithmetic (`omega`), for
all squares at once. Only what concerns fixed squares or fixed masks (`mem_pawnHome`, `mem_pawnDouble`,
the four castling configurations in `castle_xray`) is decided by the kernel.
-/

namespace Tcheran
open Rules

theorem offset_iff {s t : Sq} {df dr : Int} :
    offset s df dr = some t ↔ (t.file : Int) = s.file + df ∧ (t.rank : Int) = s.rank + dr := by
  unfold offset
  exact Sq.mk?_eq_some

theorem offset_neg (s t : Sq) (df dr : Int) (h : offset s df dr = some t) : offset t (-df) (-dr) = some s := by
  rw [offset_iff] at h ⊢
  omega

theorem offset_ne_self {t : Sq} {df dr : Int} (h : df ≠ 0 ∨ dr ≠ 0) : offset t df dr ≠ some t := by
  rw [Ne, offset_iff]
  omega

theorem fwd_other (p : Player) : fwd p = -(fwd p.other) := by cases p <;> rfl

/-- With `offset_neg`: if a knight (king) on `s` reaches `t`, one on `t` reaches `s`. -/
theorem knight_neg : ∀ δ ∈ knightDeltas, (-δ.1, -δ.2) ∈ knightDeltas := by decide
theorem king_neg : ∀ δ ∈ kingDeltas, (-δ.1, -δ.2) ∈ kingDeltas := by decide

theorem knight_offset_ne : ∀ t : Sq, ∀ d ∈ knightDeltas, offset t d.1 d.2 ≠ some t :=
  fun _ d hd => offset_ne_self ((by decide : ∀ d ∈ knightDeltas, d.1 ≠ 0 ∨ d.2 ≠ 0) d hd)
theorem king_offset_ne : ∀ t : Sq, ∀ d ∈ kingDeltas, offset t d.1 d.2 ≠ some t :=
  fun _ d hd => offset_ne_self ((by decide : ∀ d ∈ kingDeltas, d.1 ≠ 0 ∨ d.2 ≠ 0) d hd)

theorem backward_eq_offset (t : Sq) (p : Player) : t.backward p = offset t 0 (-(fwd p)) := by cases p <;> rfl

theorem single_step_rank (s t : Sq) (p : Player) (df : Int) (h : offset s df (fwd p) = some t) :
    (t.rank : Int) ≠ s.rank + 2 * fwd p := by
  rw [offset_iff] at h
  cases p <;> simp only [fwd] at * <;> omega

theorem double_step_squares (s t1 t2 : Sq) (p : Player) (h1 : offset s 0 (fwd p) = some t1)
    (h2 : offset s 0 (2 * fwd p) = some t2) :
    offset t1 0 (-(fwd p.other)) = some t2 ∧ t1 ≠ s ∧ t1 ≠ t2 ∧ s ≠ t2 := by
  rw [offset_iff] at h1 h2 ⊢
  refine ⟨?_, ?_, ?_, ?_⟩
  · cases p <;> simp only [fwd, Player.other] at * <;> omega
  all_goals
    intro e
    subst e
    cases p <;> simp only [fwd] at * <;> omega

namespace Geo

theorem offset_near {k q : Sq} {df dr : Int} (h : offset k df dr = some q)
    (hf : -1 ≤ df ∧ df ≤ 1) (hr : -1 ≤ dr ∧ dr ≤ 1) : near 1 k q := by
  rw [offset_iff] at h
  unfold near
  omega

theorem kingDeltas_small : ∀ δ ∈ kingDeltas, (-1 ≤ δ.1 ∧ δ.1 ≤ 1) ∧ (-1 ≤ δ.2 ∧ δ.2 ≤ 1) := by decide

theorem betweenList_king {k q : Sq} {δ : Int × Int} (hδ : δ ∈ kingDeltas) (h : offset k δ.1 δ.2 = some q) :
    betweenList k q = [] :=
  betweenList_near (offset_near h (kingDeltas_small δ hδ).1 (kingDeltas_small δ hδ).2)

def aligned (s x : Sq) : Prop :=
  x.file = s.file ∨ x.rank = s.rank ∨ x.file + s.rank = x.rank + s.file ∨ x.file + x.rank = s.file + s.rank

theorem onDir_aligned {d : Dir} {s x : Sq} (h : onDir d s x) : aligned s x := by
  unfold aligned
  cases d <;> simp only [onDir] at h <;> omega

theorem knight_not_aligned {s d : Sq} {δ : Int × Int} (hδ : δ ∈ knightDeltas) (h : offset s δ.1 δ.2 = some d) :
    ¬ aligned s d := by
  rw [offset_iff] at h
  unfold aligned
  simp only [knightDeltas, List.mem_cons, List.not_mem_nil, or_false] at hδ
  rcases hδ with rfl | rfl | rfl | rfl | rfl | rfl | rfl | rfl <;> simp only at h <;> omega

theorem betweenList_knight {k q : Sq} {δ : Int × Int} (hδ : δ ∈ knightDeltas) (h : offset k δ.1 δ.2 = some q) :
    betweenList k q = [] := by
  apply List.eq_nil_iff_forall_not_mem.2
  intro x hx
  obtain ⟨d, h1, h2⟩ := mem_betweenList.1 hx
  exact knight_not_aligned hδ h (onDir_aligned (onDir_trans h1 h2))

theorem same_ray_no_knight {k s d : Sq} {dirO : Dir} (hs : s ∈ ray dirO k)
    {δ : Int × Int} (hδ : δ ∈ knightDeltas) (ho : offset s δ.1 δ.2 = some d) : d ∉ ray dirO k := by
  intro hd
  rw [mem_ray_iff] at hs hd
  apply knight_not_aligned hδ ho
  by_cases hne : s = d
  · exact Or.inl (hne ▸ rfl)
  · exact (onDir_line hs hd hne).elim onDir_aligned onDir_aligned

def players : List Player := [.white, .black]
theorem mem_players (p : Player) : p ∈ players := by cases p <;> simp [players]

theorem forward_eq_step (s : Sq) (p : Player) : s.forward p = s.step (fdir p) := by cases p <;> rfl

theorem forward_eq_offset (s : Sq) (p : Player) : s.forward p = offset s 0 (fwd p) := by cases p <;> rfl

theorem forward_eq_some {s t : Sq} {p : Player} :
    s.forward p = some t ↔ t.file = s.file ∧ (t.rank : Int) = s.rank + fwd p := by
  rw [forward_eq_offset, offset_iff]
  omega

theorem fwd_abs (p : Player) : fwd p = 1 ∨ fwd p = -1 := by cases p <;> simp [fwd]

theorem double_eq_offset (s : Sq) (p : Player) :
    (s.forward p).bind (fun t => t.forward p) = offset s 0 (2 * fwd p) := by
  have hp := fwd_abs p
  have hr := s.rank_lt
  cases h : s.forward p with
  | none =>
    rw [forward_eq_offset, offset, Sq.mk?_eq_none] at h
    rw [Option.bind_none, eq_comm, offset, Sq.mk?_eq_none]
    omega
  | some t =>
    rw [forward_eq_some] at h
    rw [Option.bind_some, forward_eq_offset, offset, offset]
    congr 1 <;> omega

theorem fdir_mem_cardinal (p : Player) : fdir p ∈ Dir.cardinal := by cases p <;> decide

theorem forward_on_ray {s t : Sq} {p : Player} (h : s.forward p = some t) :
    t ∈ ray (fdir p) s ∧ betweenList s t = [] := by
  have hn := offset_near (forward_eq_offset s p ▸ h) (by omega) (by have := fwd_abs p; omega)
  rw [forward_eq_some] at h
  refine ⟨mem_ray_iff.2 ?_, betweenList_near hn⟩
  cases p <;> simp only [fdir, onDir, fwd] at h ⊢ <;> omega

theorem double_on_ray {s f1 f2 : Sq} {p : Player} (h1 : s.forward p = some f1) (h2 : f1.forward p = some f2) :
    f2 ∈ ray (fdir p) s ∧ betweenList s f2 = [f1] := by
  have hne : f1 ≠ f2 := fun e => by
    rw [e, forward_eq_some] at h2
    have := fwd_abs p
    omega
  have hray : ray (fdir p) s = f1 :: f2 :: ray.go (fdir p) 5 f2 := by
    rw [forward_eq_step] at h1 h2
    rw [ray, go_succ h1, go_succ h2]
  have hm : f2 ∈ ray (fdir p) s := by rw [hray]; simp
  refine ⟨hm, ?_⟩
  rw [betweenList_ray hm, hray, List.takeWhile_cons_of_pos (by simpa using hne),
    List.takeWhile_cons_of_neg (by simp)]

theorem capture_on_ray {s t : Sq} {p : Player} {df : Int} (hdf : df ∈ ([-1, 1] : List Int))
    (h : offset s df (fwd p) = some t) : (∃ dir ∈ Dir.diagonal, t ∈ ray dir s) ∧ betweenList s t = [] := by
  simp only [List.mem_cons, List.not_mem_nil, or_false] at hdf
  have hn := offset_near h (by omega) (by have := fwd_abs p; omega)
  refine ⟨?_, betweenList_near hn⟩
  rw [offset_iff] at h
  simp only [mem_ray_iff]
  rcases hdf with rfl | rfl <;> cases p <;> simp only [fwd] at h
  · exact ⟨.NW, by decide, by simp only [onDir]; omega⟩
  · exact ⟨.SW, by decide, by simp only [onDir]; omega⟩
  · exact ⟨.NE, by decide, by simp only [onDir]; omega⟩
  · exact ⟨.SE, by decide, by simp only [onDir]; omega⟩

theorem mem_pawnHome (p : Player) : ∀ s : Sq, mem (pawnHome p) s = decide (s.rank = startRank p) := by
  cases p <;> decide +kernel

theorem mem_pawnDouble (p : Player) :
    ∀ d : Sq, mem (pawnDouble p) d = decide ((d.rank : Int) = startRank p + 2 * fwd p) := by
  cases p <;> decide +kernel

theorem home_other_iff (s : Sq) (p : Player) :
    mem (pawnHome p.other) s = true ↔ (s.rank : Int) + fwd p = promoRank p := by
  rw [mem_pawnHome, decide_eq_true_eq]
  cases p <;> simp only [Player.other, startRank, fwd, promoRank] <;> omega

theorem forward_some : ∀ s : Sq, ∀ p ∈ players, s.rank ≠ 0 → s.rank ≠ 7 → (s.forward p).isSome = true := by
  intro s p _ h0 h7
  have hf := s.file_lt; have hr := s.rank_lt; have hp := fwd_abs p
  cases h : s.forward p with
  | some t => rfl
  | none =>
    rw [forward_eq_offset, offset, Sq.mk?_eq_none] at h
    omega

theorem double_some (s : Sq) (p : Player) (hs : s.rank = startRank p) :
    ((s.forward p).bind (fun t => t.forward p)).isSome = true := by
  have hf := s.file_lt
  cases h : (s.forward p).bind (fun t => t.forward p) with
  | some t => rfl
  | none =>
    rw [double_eq_offset, offset, Sq.mk?_eq_none] at h
    cases p <;> simp only [startRank, fwd] at hs h <;> omega

/-- a pawn between the king and a rook-like man on a file cannot be stepping onto the last rank; on a rank
it leaves the line -/
theorem promo_pin (k : Sq) (dir : Dir) (hd : dir ∈ Dir.cardinal) (q : Sq) (hq : q ∈ ray dir k) (s : Sq)
    (hs : s ∈ betweenList k q) (p : Player) (t : Sq) (hf : s.forward p = some t) (ht : t ∈ betweenList k q) :
    t.rank ≠ promoRank p := by
  obtain ⟨d1, hs1, hs2⟩ := mem_betweenList.1 hs
  obtain ⟨d2, ht1, ht2⟩ := mem_betweenList.1 ht
  rw [mem_ray_iff] at hq
  obtain rfl := onDir_unique (onDir_trans hs1 hs2) hq
  obtain rfl := onDir_unique (onDir_trans ht1 ht2) hq
  rw [forward_eq_some] at hf
  have hqr := q.rank_lt; have hkr := k.rank_lt
  simp only [Dir.cardinal, List.mem_cons, List.not_mem_nil, or_false] at hd
  rcases hd with rfl | rfl | rfl | rfl <;> cases p <;> simp only [onDir, promoRank, fwd] at * <;> omega

theorem ep_distinct {s t v : Sq} {p : Player} {df : Int} (hdf : df ∈ ([-1, 1] : List Int))
    (ht : offset s df (fwd p) = some t) (hv : offset t 0 (-(fwd p)) = some v) : v ≠ t ∧ v ≠ s ∧ s ≠ t := by
  simp only [List.mem_cons, List.not_mem_nil, or_false] at hdf
  rw [offset_iff] at ht hv
  have := fwd_abs p
  refine ⟨?_, ?_, ?_⟩ <;> rintro rfl <;> omega

/-- a pawn that has just made a double step gives check: the square it passed over is a knight's move from the
checked king, hence on none of its rays -/
theorem ep_passed_off_rays {k v t : Sq} {p : Player} {df : Int} (hdf : df ∈ ([-1, 1] : List Int))
    (hv : offset k df (fwd p) = some v) (ht : offset v 0 (fwd p) = some t) (dir : Dir) : t ∉ ray dir k := by
  have hδ : (df, 2 * fwd p) ∈ knightDeltas := by
    simp only [List.mem_cons, List.not_mem_nil, or_false] at hdf
    rcases hdf with rfl | rfl <;> cases p <;> decide
  have hk : offset k df (2 * fwd p) = some t := by
    rw [offset_iff] at hv ht ⊢
    omega
  exact fun h => knight_not_aligned hδ hk (onDir_aligned (mem_ray_iff.1 h))

/-- (king start, king target, rook start, rook target) of the four castling moves -/
def castleConfigs : List (Sq × Sq × Sq × Sq) :=
  [(E1, G1, H1, F1), (E1, C1, A1, D1), (E8, G8, H8, F8), (E8, C8, A8, D8)]

theorem castle_distinct : ∀ cfg ∈ castleConfigs, cfg.1 ≠ cfg.2.1 ∧ cfg.1 ≠ cfg.2.2.1 ∧ cfg.1 ≠ cfg.2.2.2 ∧
    cfg.2.1 ≠ cfg.2.2.1 ∧ cfg.2.1 ≠ cfg.2.2.2 ∧ cfg.2.2.1 ≠ cfg.2.2.2 := by decide

/-- seen from the king's target, the king's start square is hidden behind the rook's target, and nothing
lies beyond the rook's start square -/
theorem castle_xray : ∀ cfg ∈ castleConfigs, ∀ q : Sq,
    (cfg.1 ∈ betweenList cfg.2.1 q → cfg.2.2.2 ∈ betweenList cfg.2.1 q) ∧
    cfg.2.2.1 ∉ betweenList cfg.2.1 q := by
  intro cfg hcfg q
  -- the rook's target lies between the king's two squares; the rook starts at the end of its rank
  obtain ⟨hmid, hend⟩ := (by decide +kernel : ∀ cfg ∈ castleConfigs, cfg.2.2.2 ∈ betweenList cfg.2.1 cfg.1 ∧
    ∀ d ∈ Dir.all, cfg.2.2.1 ∈ ray d cfg.2.1 → ray d cfg.2.2.1 = []) cfg hcfg
  refine ⟨fun h => (betweenList_trans h hmid).1, fun h => ?_⟩
  obtain ⟨d, h1, h2⟩ := mem_betweenList.1 h
  have := mem_ray_iff.2 h2
  rw [hend d (dir_mem_all d) (mem_ray_iff.2 h1)] at this
  cases this

/-- the shape of a move tells the generator's stages apart -/
def diagMove (s d : Sq) : Bool := s.file != d.file && s.rank != d.rank

def rankDist (s d : Sq) : Nat := if s.rank ≤ d.rank then d.rank - s.rank else s.rank - d.rank

theorem ray_diag_shape : ∀ s : Sq, ∀ dir ∈ Dir.diagonal, ∀ d ∈ ray dir s, diagMove s d = true := by
  intro s dir hdir d hd
  rw [mem_ray_iff] at hd
  simp only [diagMove, Bool.and_eq_true, bne_iff_ne]
  simp only [Dir.diagonal, List.mem_cons, List.not_mem_nil, or_false] at hdir
  rcases hdir with rfl | rfl | rfl | rfl <;> simp only [onDir] at hd <;> omega

theorem ray_card_shape : ∀ s : Sq, ∀ dir ∈ Dir.cardinal, ∀ d ∈ ray dir s, diagMove s d = false := by
  intro s dir hdir d hd
  have := onDir_cardinal hdir (mem_ray_iff.1 hd)
  simp only [diagMove, Bool.and_eq_false_iff, bne_eq_false_iff_eq]
  omega

theorem forward_rankDist {s t : Sq} {p : Player} (h : s.forward p = some t) : rankDist s t = 1 := by
  rw [forward_eq_some] at h
  have := fwd_abs p
  unfold rankDist
  split <;> omega

theorem double_rankDist {s t u : Sq} {p : Player} (h1 : s.forward p = some t) (h2 : t.forward p = some u) :
    rankDist s u = 2 := by
  rw [forward_eq_some] at h1 h2
  have := fwd_abs p
  unfold rankDist
  split <;> omega

end Geo
end Tcheran
