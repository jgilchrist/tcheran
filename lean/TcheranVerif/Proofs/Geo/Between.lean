import TcheranVerif.Model.Geometry
import TcheranVerif.Proofs.Geo.Line
/-!
# The two specifications of "strictly between" agree

`Geometry.isBetween` (alignment and bounds on the coordinates, the specification of the `between` table) against
`Rules.betweenList` (walk the ray), through `Geo.mem_betweenList`.
-/

namespace Tcheran
namespace Geo
open Rules Geometry

theorem absDiff_eq (a b : Nat) : absDiff a b = (b - a) + (a - b) := by unfold absDiff; split <;> omega

/-- equal distances in file and in rank: on a common diagonal or antidiagonal -/
theorem absDiff_eq_iff {a b c d : Nat} : absDiff a b = absDiff c d ↔ a + d = b + c ∨ a + c = b + d := by
  rw [absDiff_eq, absDiff_eq]
  omega

theorem inside {x y t : Nat} (h : min x y ≤ t ∧ t ≤ max x y) (hx : t ≠ x) (hy : t ≠ y) :
    (x < t ∧ t < y) ∨ (y < t ∧ t < x) := by omega

theorem diag_file_ne {f r f' r' : Nat} (h : f + r' = f' + r ∨ f + r = f' + r') (hne : f' ≠ f ∨ r' ≠ r) : f' ≠ f := by
  omega

theorem isBetween_iff (a b t : Sq) : isBetween a b t = true ↔ t ∈ betweenList a b := by
  rw [mem_betweenList]
  unfold isBetween
  simp only [Bool.and_eq_true, decide_eq_true_eq, Sq.ne_coord, absDiff_eq_iff]
  constructor
  · rintro ⟨⟨-, hon⟩, hf, hr, hta, htb⟩
    rcases hon with ⟨h1, h2⟩ | ⟨h1, h2⟩ | ⟨h1, h2, h3⟩
    · rcases inside hf (by omega) (by omega) with h | h
      · exact ⟨.E, by simp only [onDir]; omega⟩
      · exact ⟨.W, by simp only [onDir]; omega⟩
    · rcases inside hr (by omega) (by omega) with h | h
      · exact ⟨.N, by simp only [onDir]; omega⟩
      · exact ⟨.S, by simp only [onDir]; omega⟩
    · have h := inside hf (diag_file_ne h2 hta) (diag_file_ne h3 htb)
      clear hf hr hta htb
      rcases h with h | h <;> rcases h1 with h1 | h1
      · exact ⟨.NE, by simp only [onDir]; omega⟩
      · exact ⟨.SE, by simp only [onDir]; omega⟩
      · exact ⟨.SW, by simp only [onDir]; omega⟩
      · exact ⟨.NW, by simp only [onDir]; omega⟩
  · rintro ⟨d, h⟩
    cases d <;> simp only [onDir] at h <;> omega

end Geo
end Tcheran
