import TcheranVerif.Proofs.ListAux
import TcheranVerif.Model.RayBase
import TcheranVerif.Proofs.Bits
/-!
# Rays and the squares between two squares, by coordinates

Evaluating one `ray` costs the kernel milliseconds (`Sq.mk?` goes through `Int`), and most facts about rays
only concern the direction from one square to another. `onDir d s x` says in `Nat` comparisons of files and
ranks that `x` lies from `s` in direction `d`; `mem_ray_iff` and `mem_betweenList` tie it to `ray` and
`betweenList` by induction along the ray. Everything else here is then linear arithmetic, direction by
direction.
-/

namespace Tcheran

/-- the two slider families: `true` rook-like, `false` bishop-like (a `Bool`, so that `cond c` picks the pin mask of the
family and `!c` is the other family) -/
def fam : Bool → List Dir
  | true => Dir.cardinal
  | false => Dir.diagonal

namespace Geo
open Rules

def onDir : Dir → Sq → Sq → Prop
  | .N,  s, x => x.file = s.file ∧ s.rank < x.rank
  | .S,  s, x => x.file = s.file ∧ x.rank < s.rank
  | .E,  s, x => x.rank = s.rank ∧ s.file < x.file
  | .W,  s, x => x.rank = s.rank ∧ x.file < s.file
  | .NE, s, x => s.file < x.file ∧ x.file + s.rank = x.rank + s.file
  | .SW, s, x => x.file < s.file ∧ x.file + s.rank = x.rank + s.file
  | .SE, s, x => s.file < x.file ∧ x.file + x.rank = s.file + s.rank
  | .NW, s, x => x.file < s.file ∧ x.file + x.rank = s.file + s.rank

def near (n : Nat) (c x : Sq) : Prop :=
  x.file ≤ c.file + n ∧ c.file ≤ x.file + n ∧ x.rank ≤ c.rank + n ∧ c.rank ≤ x.rank + n

theorem mem_go (d : Dir) : ∀ (n : Nat) (c x : Sq), x ∈ ray.go d n c ↔ onDir d c x ∧ near n c x
  | 0, c, x => by
    unfold ray.go
    simp only [List.not_mem_nil, false_iff]
    cases d <;> simp only [onDir, near] <;> omega
  | n+1, c, x => by
    unfold ray.go
    have hcf := c.file_lt; have hcr := c.rank_lt; have hxf := x.file_lt; have hxr := x.rank_lt
    cases h : c.step d with
    | none =>
      -- `c` is on the edge that `d` points to
      simp only [List.not_mem_nil, false_iff]
      unfold Sq.step at h
      rw [Sq.mk?_eq_none] at h
      cases d <;> simp only [onDir, near, Dir.delta] at h ⊢ <;> omega
    | some t =>
      simp only [List.mem_cons]
      rw [mem_go d n t x]
      unfold Sq.step at h
      rw [Sq.mk?_eq_some] at h
      have hxt : x = t ↔ x.file = t.file ∧ x.rank = t.rank := ⟨fun e => e ▸ ⟨rfl, rfl⟩, fun e => Sq.ext_fr e.1 e.2⟩
      rw [hxt]
      cases d <;> simp only [onDir, near, Dir.delta] at h ⊢ <;> omega

theorem go_succ {d : Dir} {n : Nat} {c t : Sq} (h : c.step d = some t) :
    ray.go d (n + 1) c = t :: ray.go d n t := by
  rw [ray.go, h]

theorem mem_ray_iff {d : Dir} {s x : Sq} : x ∈ ray d s ↔ onDir d s x := by
  unfold ray
  rw [mem_go]
  have hsf := s.file_lt; have hsr := s.rank_lt; have hxf := x.file_lt; have hxr := x.rank_lt
  unfold near
  exact ⟨fun h => h.1, fun h => ⟨h, by omega⟩⟩

theorem dir_family (d : Dir) : (d ∈ Dir.cardinal ∧ d ∉ Dir.diagonal) ∨ (d ∈ Dir.diagonal ∧ d ∉ Dir.cardinal) := by
  cases d <;> decide

theorem opp_cardinal (d : Dir) : d.opp ∈ Dir.cardinal ↔ d ∈ Dir.cardinal := by cases d <;> decide
theorem opp_diagonal (d : Dir) : d.opp ∈ Dir.diagonal ↔ d ∈ Dir.diagonal := by cases d <;> decide

theorem onDir_unique {d1 d2 : Dir} {s x : Sq} (h1 : onDir d1 s x) (h2 : onDir d2 s x) : d1 = d2 := by
  cases d1 <;> cases d2 <;> simp only [onDir, reduceCtorEq] at * <;> omega

theorem onDir_irrefl (d : Dir) (s : Sq) : ¬ onDir d s s := by
  cases d <;> simp only [onDir] <;> omega

theorem onDir_opp {d : Dir} {s x : Sq} : onDir d.opp x s ↔ onDir d s x := by
  cases d <;> simp only [onDir, Dir.opp] <;> omega

theorem onDir_trans {d : Dir} {s x y : Sq} (h1 : onDir d s x) (h2 : onDir d x y) : onDir d s y := by
  cases d <;> simp only [onDir] at * <;> omega

theorem onDir_line {o : Dir} {k s d : Sq} (hs : onDir o k s) (hd : onDir o k d) (hne : s ≠ d) :
    onDir o s d ∨ onDir o.opp s d := by
  have := Sq.ne_coord.1 hne
  cases o <;> simp only [onDir, Dir.opp] at * <;> omega

theorem onDir_cardinal {d : Dir} {s x : Sq} (hd : d ∈ Dir.cardinal) (h : onDir d s x) :
    x.file = s.file ∨ x.rank = s.rank := by
  simp only [Dir.cardinal, List.mem_cons, List.not_mem_nil, or_false] at hd
  rcases hd with rfl | rfl | rfl | rfl <;> simp only [onDir] at h <;> omega

theorem onDir_diagonal {d : Dir} {s x : Sq} (hd : d ∈ Dir.diagonal) (h : onDir d s x) :
    x.file + s.rank = x.rank + s.file ∨ x.file + x.rank = s.file + s.rank := by
  simp only [Dir.diagonal, List.mem_cons, List.not_mem_nil, or_false] at hd
  rcases hd with rfl | rfl | rfl | rfl <;> simp only [onDir] at h <;> omega

theorem self_not_mem_ray (d : Dir) (s : Sq) : s ∉ ray d s :=
  fun h => onDir_irrefl d s (mem_ray_iff.1 h)

theorem ray_dir_unique {s x : Sq} {d1 d2 : Dir} (h1 : x ∈ ray d1 s) (h2 : x ∈ ray d2 s) : d1 = d2 :=
  onDir_unique (mem_ray_iff.1 h1) (mem_ray_iff.1 h2)

theorem go_nodup (d : Dir) : ∀ (n : Nat) (c : Sq), (ray.go d n c).Nodup
  | 0, c => by unfold ray.go; exact List.nodup_nil
  | n+1, c => by
    unfold ray.go
    split
    · exact List.nodup_nil
    · rename_i t _
      exact List.nodup_cons.2 ⟨fun h => onDir_irrefl d t ((mem_go d n t t).1 h).1, go_nodup d n t⟩

theorem ray_nodup (d : Dir) (s : Sq) : (ray d s).Nodup := go_nodup d 7 s

theorem go_stable (d : Dir) : ∀ (n : Nat) (c : Sq), (∀ x ∈ ray.go d (n + 1) c, x ∈ ray.go d n c) →
    ray.go d (n + 1) c = ray.go d n c
  | 0, c, h => List.eq_nil_iff_forall_not_mem.2 fun x hx => by cases h x hx
  | n+1, c, h => by
    cases hs : c.step d with
    | none => rw [ray.go, ray.go, hs]
    | some t =>
      rw [go_succ hs, go_succ hs] at h ⊢
      have ht : t ∉ ray.go d (n + 1) t := fun ht => onDir_irrefl d t ((mem_go d (n + 1) t t).1 ht).1
      rw [go_stable d n t fun x hx =>
        (List.mem_cons.1 (h x (List.mem_cons_of_mem _ hx))).resolve_left fun e => ht (e ▸ hx)]

/-- after seven steps every ray has left the board: the engine's fuel 8 sees what the rules' 7 see -/
theorem ray_fuel (d : Dir) (s : Sq) : ray.go d 8 s = ray d s :=
  go_stable d 7 s fun x hx => mem_ray_iff.2 ((mem_go d 8 s x).1 hx).1

theorem ray_symm {s t : Sq} {dir : Dir} (h : t ∈ ray dir s) : s ∈ ray dir.opp t :=
  mem_ray_iff.2 (onDir_opp.2 (mem_ray_iff.1 h))

/-- a step between two squares of one ray from `k` goes along that ray or against it, hence along its family -/
theorem same_ray_family {k s d : Sq} {dirO dir2 : Dir} {c c' : Bool} (hs : s ∈ ray dirO k) (hd : d ∈ ray dirO k)
    (h : d ∈ ray dir2 s) (h2 : dir2 ∈ fam c) (hO : dirO ∈ fam c') : c = c' := by
  rw [mem_ray_iff] at hs hd h
  -- the families are disjoint, and a direction and its opposite are of one family
  have hfam : ∀ {e : Dir}, e ∈ fam c' → e ∈ fam c ∨ e.opp ∈ fam c → c = c' := by
    intro e; cases c <;> cases c' <;> cases e <;> decide
  rcases onDir_line hs hd (fun e => onDir_irrefl dir2 s (e ▸ h)) with h' | h'
  · exact hfam hO (Or.inl (onDir_unique h h' ▸ h2))
  · exact hfam hO (Or.inr (onDir_unique h h' ▸ h2))

theorem betweenList_ray {k q : Sq} {dir : Dir} (hq : q ∈ ray dir k) :
    betweenList k q = (ray dir k).takeWhile (fun x => x != q) := by
  unfold betweenList
  rw [flatMap_single (a := dir) (by decide) (dir_mem_all dir), if_pos hq]
  intro b _ hne
  exact if_neg fun hb => hne (ray_dir_unique hb hq)

theorem betweenList_eq_nil {k q : Sq} (h : ∀ d, ¬ onDir d k q) : betweenList k q = [] := by
  unfold betweenList
  rw [List.flatMap_eq_nil_iff]
  exact fun d _ => if_neg fun hq => h d (mem_ray_iff.1 hq)

theorem mem_takeWhile_go (d : Dir) (q x : Sq) : ∀ (n : Nat) (c : Sq), q ∈ ray.go d n c →
    (x ∈ (ray.go d n c).takeWhile (fun y => y != q) ↔ x ∈ ray.go d n c ∧ onDir d x q)
  | 0, c, hq => by unfold ray.go at hq; cases hq
  | n+1, c, hq => by
    cases h : c.step d with
    | none => rw [ray.go, h] at hq; cases hq
    | some t =>
      rw [go_succ h] at hq ⊢
      by_cases htq : t = q
      · subst htq
        -- nothing is taken, and the ray holds `t` and squares beyond it
        rw [List.takeWhile_cons_of_neg (by simp)]
        refine iff_of_false List.not_mem_nil fun ⟨hx, hxt⟩ => onDir_irrefl d x ?_
        rcases List.mem_cons.1 hx with rfl | hx
        · exact hxt
        · exact onDir_trans hxt ((mem_go d n t x).1 hx).1
      · have hq' : q ∈ ray.go d n t := (List.mem_cons.1 hq).resolve_left (Ne.symm htq)
        rw [List.takeWhile_cons_of_pos (by simpa using htq), List.mem_cons, List.mem_cons,
          mem_takeWhile_go d q x n t hq', or_and_right]
        exact or_congr_left (iff_self_and.2 fun e => e ▸ ((mem_go d n t q).1 hq').1)

theorem mem_betweenList {k q x : Sq} : x ∈ betweenList k q ↔ ∃ d, onDir d k x ∧ onDir d x q := by
  constructor
  · intro h
    unfold betweenList at h
    obtain ⟨d, _, h⟩ := List.mem_flatMap.1 h
    split at h
    · rename_i hq
      have := (mem_takeWhile_go d q x 7 k hq).1 h
      exact ⟨d, mem_ray_iff.1 this.1, this.2⟩
    · cases h
  · rintro ⟨d, h1, h2⟩
    have hq : q ∈ ray d k := mem_ray_iff.2 (onDir_trans h1 h2)
    rw [betweenList_ray hq]
    exact (mem_takeWhile_go d q x 7 k hq).2 ⟨mem_ray_iff.2 h1, h2⟩

/-- two squares on different rays of one family from `k`, one reached from the other along that family, lie on
opposite rays: `k` is between them -/
theorem cross_ray {k s d : Sq} {c : Bool} {dir dir' dir2 : Dir}
    (hd : dir ∈ fam c) (hd' : dir' ∈ fam c) (hd2 : dir2 ∈ fam c) (hne : dir ≠ dir') (hs : s ∈ ray dir k)
    (h3 : d ∈ ray dir' k) (h2 : d ∈ ray dir2 s) : k ∈ betweenList s d := by
  rw [mem_ray_iff] at hs h2 h3
  -- Pair by pair of directions: were `dir` and `dir'` perpendicular, `s` and `d` would differ in both of the
  -- quantities of which a direction of the family keeps one.
  have hopp : dir' = dir.opp := by
    cases c
    · have := onDir_diagonal hd2 h2
      simp only [fam, Dir.diagonal, List.mem_cons, List.not_mem_nil, or_false] at hd hd'
      rcases hd with rfl | rfl | rfl | rfl <;> rcases hd' with rfl | rfl | rfl | rfl <;>
        simp only [onDir, Dir.opp, reduceCtorEq, ne_eq, not_true_eq_false] at * <;> omega
    · have := onDir_cardinal hd2 h2
      simp only [fam, Dir.cardinal, List.mem_cons, List.not_mem_nil, or_false] at hd hd'
      rcases hd with rfl | rfl | rfl | rfl <;> rcases hd' with rfl | rfl | rfl | rfl <;>
        simp only [onDir, Dir.opp, reduceCtorEq, ne_eq, not_true_eq_false] at * <;> omega
  exact mem_betweenList.2 ⟨dir', hopp ▸ onDir_opp.2 hs, h3⟩

theorem mem_betweenList_comm {k q x : Sq} : x ∈ betweenList k q ↔ x ∈ betweenList q k := by
  rw [mem_betweenList, mem_betweenList]
  constructor <;> rintro ⟨d, h1, h2⟩ <;> exact ⟨d.opp, onDir_opp.2 h2, onDir_opp.2 h1⟩

theorem betweenList_near {k q : Sq} (h : near 1 k q) : betweenList k q = [] := by
  apply List.eq_nil_iff_forall_not_mem.2
  intro x hx
  obtain ⟨d, h1, h2⟩ := mem_betweenList.1 hx
  cases d <;> simp only [onDir, near] at * <;> omega

theorem betweenList_on_ray {k q x : Sq} (h : x ∈ betweenList k q) : ∃ dir, q ∈ ray dir k ∧ x ∈ ray dir k ∧ x ≠ q := by
  obtain ⟨d, h1, h2⟩ := mem_betweenList.1 h
  exact ⟨d, mem_ray_iff.2 (onDir_trans h1 h2), mem_ray_iff.2 h1, fun e => onDir_irrefl d q (e ▸ h2)⟩

theorem betweenList_same_ray {k q x : Sq} {dir : Dir} (hq : q ∈ ray dir k) (hx : x ∈ betweenList k q) : x ∈ ray dir k := by
  obtain ⟨d, h1, h2⟩ := mem_betweenList.1 hx
  obtain rfl := onDir_unique (mem_ray_iff.1 hq) (onDir_trans h1 h2)
  exact mem_ray_iff.2 h1

theorem betweenList_total {k a c : Sq} {dir : Dir} (ha : a ∈ ray dir k) (hc : c ∈ ray dir k) (hne : a ≠ c) :
    a ∈ betweenList k c ∨ c ∈ betweenList k a := by
  rw [mem_ray_iff] at ha hc
  rcases onDir_line ha hc hne with h | h
  · exact Or.inl (mem_betweenList.2 ⟨dir, ha, h⟩)
  · exact Or.inr (mem_betweenList.2 ⟨dir, hc, onDir_opp.1 h⟩)

theorem betweenList_trans {k q s z : Sq} (hs : s ∈ betweenList k q) (hz : z ∈ betweenList k s) :
    z ∈ betweenList k q ∧ z ≠ s := by
  obtain ⟨d, hs1, hs2⟩ := mem_betweenList.1 hs
  obtain ⟨d', hz1, hz2⟩ := mem_betweenList.1 hz
  obtain rfl := onDir_unique hs1 (onDir_trans hz1 hz2)
  exact ⟨mem_betweenList.2 ⟨d, hz1, onDir_trans hz2 hs2⟩, fun e => onDir_irrefl d s (e ▸ hz2)⟩

theorem first_unique {P : Sq → Prop} {k q q' : Sq} {dir : Dir} (hqr : q ∈ ray dir k) (hqr' : q' ∈ ray dir k)
    (hq : P q) (hq' : P q') (h : ∀ y ∈ betweenList k q, ¬ P y) (h' : ∀ y ∈ betweenList k q', ¬ P y) : q' = q := by
  apply Decidable.byContradiction
  intro hne
  rcases betweenList_total hqr' hqr hne with h1 | h1
  · exact h q' h1 hq'
  · exact h' q h1 hq

end Geo

open Rules in
theorem ray_nodup : ∀ d ∈ Dir.all, ∀ s : Sq, (ray d s).Nodup := fun d _ s => Geo.ray_nodup d s

end Tcheran
