import TcheranVerif.Model.Bits
/-!
# Squares by their coordinates; set semantics of bitboards

`mem b s` is kept opaque to `simp` (it otherwise rewrites `getLsbD` into bounded `getElem`); these
lemmas are its API.
-/

namespace Tcheran

theorem Sq.file_lt (s : Sq) : s.file < 8 := by unfold Sq.file; omega
theorem Sq.rank_lt (s : Sq) : s.rank < 8 := by unfold Sq.rank; omega

theorem Sq.ext_fr {s t : Sq} (hf : s.file = t.file) (hr : s.rank = t.rank) : s = t := by
  unfold Sq.file Sq.rank at *
  exact Fin.ext (by omega)

theorem Sq.ne_coord {s t : Sq} : s ≠ t ↔ s.file ≠ t.file ∨ s.rank ≠ t.rank :=
  ⟨fun h => Decidable.byContradiction fun hn => h (Sq.ext_fr (by omega) (by omega)), fun h e => by subst e; omega⟩

theorem Sq.mk?_eq_some {f r : Int} {t : Sq} :
    Sq.mk? f r = some t ↔ (t.file : Int) = f ∧ (t.rank : Int) = r := by
  unfold Sq.mk? Sq.file Sq.rank
  have := t.isLt
  split
  · rw [Option.some.injEq, Fin.ext_iff]
    simp only
    omega
  · simp only [reduceCtorEq, false_iff]
    omega

theorem Sq.mk?_eq_none {f r : Int} : Sq.mk? f r = none ↔ ¬ (0 ≤ f ∧ f < 8 ∧ 0 ≤ r ∧ r < 8) := by
  unfold Sq.mk?
  split <;> simp [*]

theorem Sq.mk?_file_rank (s : Sq) : Sq.mk? (s.file : Int) (s.rank : Int) = some s :=
  Sq.mk?_eq_some.2 ⟨rfl, rfl⟩

theorem Sq.step_opp {d : Dir} {s t : Sq} : t.step d.opp = some s ↔ s.step d = some t := by
  unfold Sq.step
  rw [Sq.mk?_eq_some, Sq.mk?_eq_some]
  cases d <;> simp only [Dir.opp, Dir.delta] <;> omega

theorem mem_and (a b : BB) (t : Sq) : mem (a &&& b) t = (mem a t && mem b t) := by simp [mem]
theorem mem_or (a b : BB) (t : Sq) : mem (a ||| b) t = (mem a t || mem b t) := by simp [mem]
theorem mem_xor (a b : BB) (t : Sq) : mem (a ^^^ b) t = (mem a t != mem b t) := by simp [mem]
theorem mem_not (a : BB) (t : Sq) : mem (~~~a) t = !mem a t := by
  simp [mem, t.isLt]
theorem mem_zero (t : Sq) : mem 0#64 t = false := by simp [mem]

theorem mem_full (s : Sq) : mem BB.full s = true := by
  rw [show BB.full = ~~~0#64 from rfl, mem_not, mem_zero]; rfl

theorem mem_bb (t u : Sq) : mem (bb t) u = decide (u = t) := by
  rw [Bool.eq_iff_iff]
  simp only [mem, bb, BitVec.getLsbD_shiftLeft, BitVec.getLsbD_one, u.isLt, decide_true, Bool.true_and,
    Bool.and_eq_true, Bool.not_eq_true', decide_eq_false_iff_not, decide_eq_true_eq, Fin.ext_iff]
  omega

theorem mem_bb2 (a b x : Sq) : mem (bb a ||| bb b) x = true ↔ x ∈ [a, b] := by
  rw [mem_or, mem_bb, mem_bb]; simp
theorem mem_bb3 (a b c x : Sq) : mem (bb a ||| bb b ||| bb c) x = true ↔ x ∈ [a, b, c] := by
  rw [mem_or, mem_or, mem_bb, mem_bb, mem_bb]; simp [or_assoc]

theorem ext_mem (a b : BB) (h : ∀ t, mem a t = mem b t) : a = b :=
  BitVec.eq_of_getLsbD_eq fun i hi => h ⟨i, hi⟩

theorem and_bb_eq_zero (occ : BB) (t : Sq) : (occ &&& bb t = 0#64) ↔ mem occ t = false := by
  constructor
  · intro hz
    have := congrArg (fun b => mem b t) hz
    simp only [mem_and, mem_bb, mem_zero, decide_true, Bool.and_true] at this
    exact this
  · intro h
    apply ext_mem; intro u
    rw [mem_and, mem_bb, mem_zero]
    by_cases hu : u = t
    · subst hu; simp [h]
    · simp [hu]

theorem bb_toNat (s : Sq) : (bb s).toNat = 2 ^ s.val := by
  rw [bb, BitVec.toNat_shiftLeft, Nat.shiftLeft_eq, BitVec.toNat_ofNat, Nat.one_mul]
  exact Nat.mod_eq_of_lt (Nat.pow_lt_pow_right (by decide) s.isLt)

theorem bb_ne_zero (s : Sq) : bb s ≠ 0#64 := fun h => by
  have h1 := mem_bb s s
  rw [h, mem_zero] at h1
  simp at h1

theorem bb_inj {s t : Sq} (h : bb s = bb t) : s = t := by
  have := mem_bb t s
  rw [← h, mem_bb, decide_eq_true rfl] at this
  exact of_decide_eq_true this.symm

theorem bb_ne_zero_iff (a : BB) : a ≠ 0#64 ↔ ∃ q, mem a q = true := by
  constructor
  · intro h
    exact Decidable.byContradiction fun hn => h (ext_mem _ _ fun t => by
      rw [mem_zero]
      exact Bool.eq_false_iff.2 fun hm => hn ⟨t, hm⟩)
  · rintro ⟨q, hq⟩ rfl
    rw [mem_zero] at hq
    cases hq

theorem not_mem_iff {P : BB} {s : Sq} {A : Prop} (h : mem P s = true ↔ A) : mem P s = false ↔ ¬ A := by
  rw [← h]; simp

theorem mem_not_iff {R : BB} {s : Sq} {P : Prop} (h : mem R s = true ↔ P) : mem (~~~R) s = true ↔ ¬ P := by
  rw [mem_not, Bool.not_eq_true', ← h, Bool.not_eq_true]

theorem mem_toList (b : BB) (s : Sq) : s ∈ BB.toList b ↔ mem b s = true := by
  simp [BB.toList, List.mem_filter, List.mem_finRange]

theorem toList_nodup (b : BB) : (BB.toList b).Nodup := (List.nodup_finRange 64).filter _

theorem dir_mem_all (d : Dir) : d ∈ Dir.all := by cases d <;> simp [Dir.all]

/-- the one kernel decision (8 directions, 64 squares) behind every shift lemma: `mem_inDir` extends it to all
boards -/
theorem inDir_bb (d : Dir) (s : Sq) : BB.inDir d (bb s) = (s.step d).elim 0#64 bb := by
  have h : (Dir.all.all fun d => (List.finRange 64).all fun s : Sq =>
      BB.inDir d (bb s) == (s.step d).elim 0#64 bb) = true := by
    decide +kernel
  exact eq_of_beq (List.all_eq_true.1 (List.all_eq_true.1 h d (dir_mem_all d)) s (List.mem_finRange s))

theorem mem_inDir_bb (d : Dir) (s t : Sq) : mem (BB.inDir d (bb s)) t = true ↔ s.step d = some t := by
  rw [inDir_bb]
  cases s.step d with
  | none => simp [mem_zero]
  | some u => simp [mem_bb, eq_comm]

theorem mem_shiftLeft (X : BB) (n : Nat) (t : Sq) :
    mem (X <<< n) t = true ↔ ∃ s, mem X s = true ∧ s.val + n = t.val := by
  simp only [mem, BitVec.getLsbD_shiftLeft, t.isLt, decide_true, Bool.true_and, Bool.and_eq_true,
    Bool.not_eq_true', decide_eq_false_iff_not, Nat.not_lt]
  constructor
  · rintro ⟨hn, h⟩
    exact ⟨⟨t.val - n, by omega⟩, h, by simp only; omega⟩
  · rintro ⟨s, h, e⟩
    exact ⟨by omega, by rwa [show t.val - n = s.val by omega]⟩

theorem mem_ushiftRight (X : BB) (n : Nat) (t : Sq) :
    mem (X >>> n) t = true ↔ ∃ s, mem X s = true ∧ s.val = t.val + n := by
  simp only [mem, BitVec.getLsbD_ushiftRight, Nat.add_comm n]
  constructor
  · intro h
    exact ⟨⟨t.val + n, BitVec.lt_of_getLsbD h⟩, h, rfl⟩
  · rintro ⟨s, h, e⟩
    rwa [← e]

theorem mem_inDir (d : Dir) (X : BB) (t : Sq) :
    mem (BB.inDir d X) t = true ↔ ∃ s, mem X s = true ∧ s.step d = some t := by
  -- Bit `t` of a shifted board comes from one bit `s` of the board, the same for every board; which one is read
  -- off the one-square boards (`mem_inDir_bb`).
  have h : ∃ R : Sq → Prop, ∀ X, mem (BB.inDir d X) t = true ↔ ∃ s, mem X s = true ∧ R s := by
    have masked : ∀ (R : Sq → Prop) (f : BB → BB) (m : BB), (∀ X, mem (f X) t = true ↔ ∃ s, mem X s = true ∧ R s) →
        ∀ X, mem (f X &&& m) t = true ↔ ∃ s, mem X s = true ∧ R s ∧ mem m t = true := fun R f m hf X => by
      rw [mem_and, Bool.and_eq_true, hf]
      exact ⟨fun ⟨⟨s, hs, hR⟩, hm⟩ => ⟨s, hs, hR, hm⟩, fun ⟨s, hs, hR, hm⟩ => ⟨⟨s, hs, hR⟩, hm⟩⟩
    cases d
    · exact ⟨_, fun X => mem_shiftLeft X 8 t⟩
    · exact ⟨_, masked _ _ BB.notA fun X => mem_shiftLeft X 9 t⟩
    · exact ⟨_, masked _ _ BB.notA fun X => mem_shiftLeft X 1 t⟩
    · exact ⟨_, masked _ _ BB.notA fun X => mem_ushiftRight X 7 t⟩
    · exact ⟨_, fun X => mem_ushiftRight X 8 t⟩
    · exact ⟨_, masked _ _ BB.notH fun X => mem_ushiftRight X 9 t⟩
    · exact ⟨_, masked _ _ BB.notH fun X => mem_ushiftRight X 1 t⟩
    · exact ⟨_, masked _ _ BB.notH fun X => mem_shiftLeft X 7 t⟩
  obtain ⟨R, h⟩ := h
  rw [h]
  refine exists_congr fun s => and_congr_right fun _ => ?_
  rw [← mem_inDir_bb, h]
  simp only [mem_bb, decide_eq_true_eq, exists_eq_left]

theorem inDir_zero (d : Dir) : BB.inDir d 0#64 = 0#64 := by
  cases d <;> simp [BB.inDir, BB.north, BB.south, BB.east, BB.west, BB.northEast, BB.northWest,
    BB.southEast, BB.southWest]

theorem backward_zero (p : Player) : BB.backward p 0#64 = 0#64 := by cases p <;> rfl

theorem count_eq_zero_iff (b : BB) : BB.count b = 0 ↔ b = 0#64 := by
  rw [BB.count, List.length_eq_zero_iff, BB.toList, List.filter_eq_nil_iff]
  refine ⟨fun h => ext_mem _ _ fun t => ?_, fun h t _ => by rw [h, mem_zero]; exact Bool.false_ne_true⟩
  rw [mem_zero]
  exact Bool.eq_false_iff.2 (h t (List.mem_finRange t))

theorem toList_zero : BB.toList 0#64 = [] := List.eq_nil_of_length_eq_zero ((count_eq_zero_iff 0#64).2 rfl)

theorem lsbSq?_eq_find? (b : BB) : BB.lsbSq? b = (List.finRange 64).find? (mem b) :=
  List.head?_filter ..

theorem count_le_one {b : BB} (h : BB.count b ≤ 1) : b = 0#64 ∨ ∃ c, BB.toList b = [c] := by
  rw [← count_eq_zero_iff]
  unfold BB.count at h ⊢
  match BB.toList b, h with
  | [], _ => exact Or.inl rfl
  | [c], _ => exact Or.inr ⟨c, rfl⟩

theorem one_lt_count {b : BB} (h : 1 < BB.count b) : ∃ c1 c2, c1 ≠ c2 ∧ mem b c1 = true ∧ mem b c2 = true := by
  have hnd := toList_nodup b
  simp only [← mem_toList]
  unfold BB.count at h
  match BB.toList b, h, hnd with
  | c1 :: c2 :: _, _, hnd => exact ⟨c1, c2, fun e => by simp [e] at hnd, by simp, by simp⟩

theorem count_mono (a b : BB) (h : ∀ t, mem a t = true → mem b t = true) : BB.count a ≤ BB.count b :=
  (toList_nodup a).length_le_of_subset fun t ht => (mem_toList b t).2 (h t ((mem_toList a t).1 ht))

theorem count_and_le (a b : BB) : BB.count (a &&& b) ≤ BB.count a :=
  count_mono _ _ fun t h => by rw [mem_and, Bool.and_eq_true] at h; exact h.1

theorem count_or_le (a b : BB) : BB.count (a ||| b) ≤ BB.count a + BB.count b := by
  unfold BB.count
  rw [← List.length_append]
  refine (toList_nodup _).length_le_of_subset fun t ht => ?_
  rw [mem_toList, mem_or, Bool.or_eq_true] at ht
  exact List.mem_append.2 (ht.imp (mem_toList a t).2 (mem_toList b t).2)

end Tcheran
