import TcheranVerif.Model.Eval
import TcheranVerif.Proofs.AttackSpec
import TcheranVerif.Proofs.EvalBlend
/-!
# The static evaluation is total and bounded (C16)

Every table index of the evaluation is in range (no panic), the packed sums stay inside `i16`, so the extraction is
exact, and the blended result lies strictly inside the range reserved for non-mate scores.

Every term of the evaluation is a `Box` (a packed pair with both halves between two bounds, `Proofs/EvalBlend`).
Each loop adds one boxed amount per man (`foldl_counted`), so its result lies between class bounds times the number of
men processed; three classes per colour (pawns, officers, king) with generous numeric bounds checked against the
tables by the kernel; the final inequality is linear arithmetic over the six class counts (`total_box`).
-/

namespace Tcheran
namespace Eval
open Board

/-- a leaper attacks at most as many squares as it has offsets -/
theorem knight_count (s : Sq) : BB.count (knightAttacks s) ≤ 8 := by
  rw [knightAttacks_eq, genKnight_geometric, Geometry.knightSpec]
  exact Nat.le_trans (count_setOf_le _) (List.length_filterMap_le _ Rules.knightDeltas)

theorem king_count (s : Sq) : BB.count (kingAttacks s) ≤ 8 := by
  rw [kingAttacks_eq, genKing_geometric, Geometry.kingSpec]
  exact Nat.le_trans (count_setOf_le _) (List.length_filterMap_le _ Rules.kingDeltas)

theorem bishop_empty_count : ∀ s : Sq, BB.count (slide Dir.diagonal s 0#64) ≤ 13 := by decide +kernel
theorem rook_empty_count : ∀ s : Sq, BB.count (slide Dir.cardinal s 0#64) ≤ 14 := by decide +kernel

theorem bishop_count (T : SliderTables) (s : Sq) (occ : BB) : BB.count (bishopAttacks s occ) ≤ 13 := by
  rw [T.bishop, Geometry.bishopSpec, ← slide_eq_spec]
  exact Nat.le_trans (count_mono _ _ (slide_sub_empty _ s occ)) (bishop_empty_count s)

theorem rook_count (T : SliderTables) (s : Sq) (occ : BB) : BB.count (rookAttacks s occ) ≤ 14 := by
  rw [T.rook, Geometry.rookSpec, ← slide_eq_spec]
  exact Nat.le_trans (count_mono _ _ (slide_sub_empty _ s occ)) (rook_empty_count s)

def TblIn (tbl : Array (Int × Int)) (lo hi : Int) : Prop :=
  ∀ v ∈ tbl.toList, lo ≤ v.1 ∧ v.1 ≤ hi ∧ lo ≤ v.2 ∧ v.2 ≤ hi

theorem TblIn.get {tbl : Array (Int × Int)} {lo hi : Int} (h : TblIn tbl lo hi) {i : Nat} {v : Int × Int}
    (hv : tbl[i]? = some v) : Box lo hi (packP v) :=
  Box.ofPair v (h v (Array.mem_def.1 (Array.mem_of_getElem? hv)))

theorem TblIn.getD {tbl : Array (Int × Int)} {lo hi : Int} (h : TblIn tbl lo hi) (h0 : lo ≤ 0 ∧ 0 ≤ hi) (i : Nat) :
    Box lo hi (packP (tbl.getD i (0, 0))) := by
  rcases List.mem_cons.1 (getD_mem tbl i (0, 0)) with e | hm
  · rw [e]; exact Box.ofPair _ ⟨h0.1, h0.2, h0.1, h0.2⟩
  · exact Box.ofPair _ (h _ hm)

/-- one generous box for the four mobility tables, not the extremes of each -/
theorem knightMob_in : TblIn Gen.knightMobility (-100) 640 := by unfold TblIn; decide +kernel
theorem bishopMob_in : TblIn Gen.bishopMobility (-100) 640 := by unfold TblIn; decide +kernel
theorem rookMob_in : TblIn Gen.rookMobility (-100) 640 := by unfold TblIn; decide +kernel
theorem queenMob_in : TblIn Gen.queenMobility (-100) 640 := by unfold TblIn; decide +kernel
theorem kingAtt_in : TblIn Gen.attackedKingSquares (-550) 210 := by unfold TblIn; decide +kernel
theorem passed_in : TblIn Gen.passedPawnsDef (-80) 200 := by unfold TblIn; decide +kernel
theorem bishopPair_in : TblIn Gen.bishopPairBonus 0 100 := by unfold TblIn; decide +kernel
theorem mob_sizes : Gen.knightMobility.size = 9 ∧ Gen.bishopMobility.size = 14 ∧ Gen.rookMobility.size = 15 ∧
    Gen.queenMobility.size = 28 ∧ Gen.attackedKingSquares.size = 9 := by decide

theorem Box.succ {A B lo hi x d : Int} {n : Nat} (hx : Box (A + lo * n) (B + hi * n) x) (hd : Box lo hi d) :
    Box (A + lo * (n + 1 : Nat)) (B + hi * (n + 1 : Nat)) (x + d) := by
  refine (hx.add hd).mono ?_ ?_ <;>
    (simp only [Int.natCast_add, Int.natCast_one, Int.mul_add, Int.mul_one]; omega)

theorem mobStep_none (safe : BB) (tbl : Array (Int × Int)) (moves : Sq → BB) (p : Sq) :
    mobStep safe tbl moves none p = none := rfl

theorem mobStep_some (safe : BB) (tbl : Array (Int × Int)) (moves : Sq → BB) (e : Int) (att : BB) (p : Sq) :
    mobStep safe tbl moves (some (e, att)) p =
      (tbl[BB.count (moves p &&& safe)]?).map fun v => (e + packP v, att ||| moves p) := by
  unfold mobStep
  simp only [Option.bind_eq_bind, Option.bind_some, Option.pure_def]
  cases tbl[BB.count (moves p &&& safe)]? <;> rfl

/-- the mobility loop of one kind of piece; `hidx`: it never attacks as many squares as the table is long -/
theorem mobFold {tbl : Array (Int × Int)} {moves : Sq → BB} {lo hi : Int} (hT : TblIn tbl lo hi)
    (hidx : ∀ p, BB.count (moves p) < tbl.size) (safe : BB) (ps : List Sq) {A B e : Int} (att : BB)
    (he : Box A B e) :
    ∃ e' att', ps.foldl (mobStep safe tbl moves) (some (e, att)) = some (e', att') ∧
      Box (A + lo * ps.length) (B + hi * ps.length) e' := by
  have := foldl_counted (fun n st => ∃ e' att', st = some (e', att') ∧ Box (A + lo * n) (B + hi * n) e')
    (mobStep safe tbl moves) (fun n st p ⟨e', att', hst, hb⟩ => by
      obtain ⟨v, hv⟩ : ∃ v, tbl[BB.count (moves p &&& safe)]? = some v :=
        ⟨_, Array.getElem?_eq_getElem (Nat.lt_of_le_of_lt (count_and_le _ _) (hidx p))⟩
      exact ⟨e' + packP v, att' ||| moves p, by rw [hst, mobStep_some, hv]; rfl, hb.succ (hT.get hv)⟩)
    ps 0 (some (e, att))
    ⟨e, att, rfl, by simpa using he⟩
  simpa using this

/-- `lo ≤ 0 ≤ hi`: an element that does not qualify contributes nothing -/
theorem condFold {α : Type} {c : α → Bool} {w : α → Int} {lo hi : Int} (hlo : lo ≤ 0) (hhi : 0 ≤ hi)
    (hw : ∀ s, Box lo hi (w s)) (l : List α) :
    Box (lo * l.length) (hi * l.length) (l.foldl (fun acc s => if c s then acc + w s else acc) 0) := by
  have := foldl_counted (fun n acc => Box (0 + lo * n) (0 + hi * n) acc) (fun acc s => if c s then acc + w s else acc)
    (fun n acc s hb => by
      show Box _ _ (if c s then acc + w s else acc)
      split
      · exact hb.succ (hw s)
      · have := hb.succ (Box.zero.mono hlo hhi); rwa [Int.add_zero] at this) l 0 0 (by simpa using Box.zero)
  simpa using this

/-- class bounds (white's point of view): pawns, officers, king -/
def clsLo : PieceKind → Int
  | .pawn => 30 | .king => -220 | _ => 100
def clsHi : PieceKind → Int
  | .pawn => 280 | .king => 200 | _ => 1300

/-- `(0, 0)`: the default of `getD` -/
theorem pstDef_in (k : PieceKind) : ∀ v ∈ (0, 0) :: (pstDef k).toList,
    clsLo k ≤ v.1 + (Gen.pieceValues.getD k.idx (0, 0)).1 ∧ v.1 + (Gen.pieceValues.getD k.idx (0, 0)).1 ≤ clsHi k ∧
    clsLo k ≤ v.2 + (Gen.pieceValues.getD k.idx (0, 0)).2 ∧ v.2 + (Gen.pieceValues.getD k.idx (0, 0)).2 ≤ clsHi k := by
  cases k <;> decide +kernel

theorem pstW_box (k : PieceKind) (i : Nat) : Box (clsLo k) (clsHi k) (packP ((pstDef k).getD i (0, 0)) + material k) :=
  ⟨_, _, pack_add .., pstDef_in k _ (getD_mem (pstDef k) i (0, 0))⟩

theorem pst_box (pl : Player) (k : PieceKind) (s : Sq) :
    Box (match pl with | .white => clsLo k | .black => -clsHi k) (match pl with | .white => clsHi k | .black => -clsLo k)
      (pst pl k s) := by
  cases pl
  · exact pstW_box k _
  · exact (pstW_box k _).neg

theorem phaseOf_nonneg (k : PieceKind) : 0 ≤ phaseOf k := by cases k <;> decide

def cnt (b : Board) (f : Piece → Bool) (l : List Sq) : Nat := (l.filter fun s => (b.pieceAt s).any f).length

def isP (pl : Player) (pc : Piece) : Bool := pc.player == pl && pc.kind == .pawn
def isK (pl : Player) (pc : Piece) : Bool := pc.player == pl && pc.kind == .king
def isO (pl : Player) (pc : Piece) : Bool := pc.player == pl && pc.kind != .pawn && pc.kind != .king

theorem cnt_single (b : Board) (f : Piece → Bool) (s : Sq) :
    cnt b f [s] = if (b.pieceAt s).any f then 1 else 0 := by
  unfold cnt
  rw [List.filter_cons]
  split <;> rfl

theorem cnt_cons (b : Board) (f : Piece → Bool) (s : Sq) (l : List Sq) :
    cnt b f (s :: l) = cnt b f [s] + cnt b f l := by
  unfold cnt
  rw [← List.length_append, ← List.filter_append]
  rfl

/-- a class that is the disjoint union of two -/
theorem cnt_add (b : Board) {f g h : Piece → Bool}
    (hs : ∀ pc, (if f pc then 1 else 0 : Nat) = (if g pc then 1 else 0) + (if h pc then 1 else 0))
    (l : List Sq) : cnt b f l = cnt b g l + cnt b h l := by
  induction l with
  | nil => rfl
  | cons s l ih =>
    simp only [cnt_cons b _ s l, cnt_single, ih]
    cases b.pieceAt s with
    | none => simp only [Option.any_none, Bool.false_eq_true, if_false, Nat.zero_add]
    | some pc => simp only [Option.any_some, hs pc]; omega

def sqs : List Sq := List.finRange 64

theorem isP_eq (pl : Player) : isP pl = (· == ⟨.pawn, pl⟩) := by
  funext ⟨k, p⟩; cases k <;> cases p <;> cases pl <;> rfl
theorem isK_eq (pl : Player) : isK pl = (· == ⟨.king, pl⟩) := by
  funext ⟨k, p⟩; cases k <;> cases p <;> cases pl <;> rfl

theorem cnt_player (b : Board) (pl : Player) (l : List Sq) :
    cnt b (fun pc => pc.player == pl) l = cnt b (isP pl) l + cnt b (isO pl) l + cnt b (isK pl) l := by
  rw [← cnt_add b (f := fun pc => pc.player == pl && pc.kind != .king) (fun ⟨k, p⟩ => by
      cases k <;> cases p <;> cases pl <;> decide) l]
  exact cnt_add b (fun ⟨k, p⟩ => by cases k <;> cases p <;> cases pl <;> decide) l

theorem cnt_isO (b : Board) (pl : Player) (l : List Sq) :
    cnt b (isO pl) l = cnt b (fun pc => pc == ⟨.knight, pl⟩) l + cnt b (fun pc => pc == ⟨.bishop, pl⟩) l +
      cnt b (fun pc => pc == ⟨.rook, pl⟩) l + cnt b (fun pc => pc == ⟨.queen, pl⟩) l := by
  rw [cnt_add b (g := fun pc => pc.player == pl && (pc.kind == .knight || pc.kind == .bishop || pc.kind == .rook))
      (h := fun pc => pc == ⟨.queen, pl⟩) (fun ⟨k, p⟩ => by cases k <;> cases p <;> cases pl <;> decide),
    cnt_add b (g := fun pc => pc.player == pl && (pc.kind == .knight || pc.kind == .bishop))
      (h := fun pc => pc == ⟨.rook, pl⟩) (fun ⟨k, p⟩ => by cases k <;> cases p <;> cases pl <;> decide),
    cnt_add b (g := fun pc => pc == ⟨.knight, pl⟩)
      (h := fun pc => pc == ⟨.bishop, pl⟩) (fun ⟨k, p⟩ => by cases k <;> cases p <;> cases pl <;> decide)]

/-- one square of `IncrementalEvalFields::init` -/
def incStep (b : Board) (acc : Inc) (s : Sq) : Inc :=
  match b.pieceAt s with
  | some pc => { phase := acc.phase + phaseOf pc.kind, pst := acc.pst + pst pc.player pc.kind s }
  | none => acc

theorem incInit_eq (b : Board) : Game.incInit theCfg b = (List.finRange 64).foldl (incStep b) ⟨0, 0⟩ := rfl

/-- the officers share a class, for which the queen stands -/
def pstLo (b : Board) (l : List Sq) : Int :=
  clsLo .pawn * cnt b (isP .white) l + clsLo .queen * cnt b (isO .white) l + clsLo .king * cnt b (isK .white) l
    - clsHi .pawn * cnt b (isP .black) l - clsHi .queen * cnt b (isO .black) l - clsHi .king * cnt b (isK .black) l
def pstHi (b : Board) (l : List Sq) : Int :=
  clsHi .pawn * cnt b (isP .white) l + clsHi .queen * cnt b (isO .white) l + clsHi .king * cnt b (isK .white) l
    - clsLo .pawn * cnt b (isP .black) l - clsLo .queen * cnt b (isO .black) l - clsLo .king * cnt b (isK .black) l

theorem pst_cons (b : Board) (s : Sq) (l : List Sq) :
    pstLo b (s :: l) = pstLo b [s] + pstLo b l ∧ pstHi b (s :: l) = pstHi b [s] + pstHi b l := by
  simp only [pstLo, pstHi, clsLo, clsHi, cnt_cons b _ s l]
  omega

theorem pst_single (b : Board) (s : Sq) (pc : Piece) (h : b.pieceAt s = some pc) :
    pstLo b [s] = (match pc.player with | .white => clsLo pc.kind | .black => -clsHi pc.kind) ∧
    pstHi b [s] = (match pc.player with | .white => clsHi pc.kind | .black => -clsLo pc.kind) := by
  simp only [pstLo, pstHi, cnt_single, h, Option.any_some]
  obtain ⟨k, pl⟩ := pc
  cases k <;> cases pl <;> decide

theorem pst_empty (b : Board) (s : Sq) (h : b.pieceAt s = none) : pstLo b [s] = 0 ∧ pstHi b [s] = 0 := by
  simp only [pstLo, pstHi, cnt_single, h, Option.any_none]
  decide

theorem pstFold (b : Board) (l : List Sq) (acc : Inc) :
    acc.phase ≤ (l.foldl (incStep b) acc).phase ∧
    ∃ d, (l.foldl (incStep b) acc).pst = acc.pst + d ∧ Box (pstLo b l) (pstHi b l) d := by
  induction l generalizing acc with
  | nil => exact ⟨Int.le_refl _, 0, (Int.add_zero _).symm, Box.zero⟩
  | cons s l ih =>
    obtain ⟨hp, d, hd, hb⟩ := ih (incStep b acc s)
    rw [List.foldl_cons, hd, (pst_cons b s l).1, (pst_cons b s l).2]
    unfold incStep at hp ⊢
    cases hpa : b.pieceAt s with
    | none =>
      rw [hpa] at hp
      rw [(pst_empty b s hpa).1, (pst_empty b s hpa).2, Int.zero_add, Int.zero_add]
      exact ⟨hp, d, rfl, hb⟩
    | some pc =>
      rw [hpa] at hp
      rw [(pst_single b s pc hpa).1, (pst_single b s pc hpa).2]
      exact ⟨Int.le_trans (Int.le_add_of_nonneg_right (phaseOf_nonneg pc.kind)) hp, pst pc.player pc.kind s + d,
        Int.add_assoc .., (pst_box pc.player pc.kind s).add hb⟩

theorem count_piecesOf (b : Board) (hc : Consistent b) (k : PieceKind) (pl : Player) :
    BB.count (b.piecesOf k pl) = cnt b (fun pc => pc == ⟨k, pl⟩) sqs := by
  unfold BB.count BB.toList cnt sqs
  congr 1
  apply List.filter_congr
  intro s _
  rw [mem_piecesOf b hc, Bool.eq_iff_iff]
  cases b.pieceAt s <;> simp

theorem count_pawnsOf (b : Board) (hc : Consistent b) (pl : Player) : BB.count (b.pawnsOf pl) = cnt b (isP pl) sqs := by
  rw [isP_eq]; exact count_piecesOf b hc .pawn pl

theorem count_kingOf (b : Board) (hc : Consistent b) (pl : Player) : BB.count (b.kingOf pl) = cnt b (isK pl) sqs := by
  rw [isK_eq]; exact count_piecesOf b hc .king pl

theorem mobility_side (T : SliderTables) (b : Board) (hc : Consistent b) (pl : Player)
    (hk : cnt b (isK pl.other) sqs = 1) :
    ∃ x, mobilityFor b pl = some x ∧
      Box (-100 * (cnt b (isO pl) sqs : Int) - 210) (640 * (cnt b (isO pl) sqs : Int) + 550) x := by
  obtain ⟨s9, s14, s15, s28, sk⟩ := mob_sizes
  have hb := fun p => bishop_count T p b.occupancy
  have hr := fun p => rook_count T p b.occupancy
  -- the four loops, each from where the one before has ended
  obtain ⟨e1, a1, f1, b1⟩ := mobFold knightMob_in (moves := knightAttacks)
    (fun p => s9 ▸ Nat.lt_succ_of_le (knight_count p)) (safeSquares b pl) (BB.toList (b.knightsOf pl)) 0#64 Box.zero
  obtain ⟨e2, a2, f2, b2⟩ := mobFold bishopMob_in (moves := fun p => bishopAttacks p b.occupancy)
    (fun p => s14 ▸ Nat.lt_succ_of_le (hb p)) (safeSquares b pl) (BB.toList (b.bishopsOf pl)) a1 b1
  obtain ⟨e3, a3, f3, b3⟩ := mobFold rookMob_in (moves := fun p => rookAttacks p b.occupancy)
    (fun p => s15 ▸ Nat.lt_succ_of_le (hr p)) (safeSquares b pl) (BB.toList (b.rooksOf pl)) a2 b2
  obtain ⟨e4, a4, f4, b4⟩ := mobFold queenMob_in
    (moves := fun p => bishopAttacks p b.occupancy ||| rookAttacks p b.occupancy)
    (fun p => s28 ▸ Nat.lt_succ_of_le (Nat.le_trans (count_or_le _ _) (Nat.add_le_add (hb p) (hr p))))
    (safeSquares b pl) (BB.toList (b.queensOf pl)) a3 b3
  -- the enemy king is there, and a king attacks at most eight squares
  obtain ⟨ek, hek⟩ : ∃ ek, BB.lsbSq? (b.kingOf pl.other) = some ek := by
    have hkc := (count_kingOf b hc pl.other).trans hk
    unfold BB.lsbSq?
    cases hl : BB.toList (b.kingOf pl.other) with
    | nil => rw [BB.count, hl] at hkc; cases hkc
    | cons x xs => exact ⟨x, rfl⟩
  obtain ⟨v, hv⟩ : ∃ v, Gen.attackedKingSquares[BB.count (a4 &&& kingAttacks ek)]? = some v :=
    ⟨_, Array.getElem?_eq_getElem (sk ▸ Nat.lt_succ_of_le (Nat.le_trans
      (BitVec.and_comm a4 _ ▸ count_and_le (kingAttacks ek) a4) (king_count ek)))⟩
  -- the pieces the four loops have gone through are the officers
  have hO : (BB.toList (b.knightsOf pl)).length + (BB.toList (b.bishopsOf pl)).length +
      (BB.toList (b.rooksOf pl)).length + (BB.toList (b.queensOf pl)).length = cnt b (isO pl) sqs := by
    rw [cnt_isO, ← count_piecesOf b hc, ← count_piecesOf b hc, ← count_piecesOf b hc, ← count_piecesOf b hc]
    rfl
  refine ⟨e4 - packP v, ?_, (b4.sub (kingAtt_in.get hv)).mono (by omega) (by omega)⟩
  unfold mobilityFor
  simp only [Option.bind_eq_bind, Option.pure_def]
  rw [f1, f2, f3, f4]
  simp only [Option.bind_some, hek, hv]

theorem bishopPair_box (b : Board) : Box (-100) 100 (bishopPair b) := by
  have hi (c : Prop) [Decidable c] : Box 0 100 (if c then packP (Gen.bishopPairBonus.getD 0 (0, 0)) else 0) := by
    split
    · exact bishopPair_in.getD (by omega) 0
    · exact Box.zero.mono (by omega) (by omega)
  exact (hi _).sub (hi _)

theorem passedPst_box (pl : Player) (s : Sq) :
    Box (match pl with | .white => -80 | .black => -200) (match pl with | .white => 200 | .black => 80)
      (passedPst pl s) := by
  cases pl
  · exact passed_in.getD (by omega) _
  · exact (passed_in.getD (by omega) _).neg

theorem passed_side (b : Board) (hc : Consistent b) (pl : Player) :
    Box ((match pl with | .white => -80 | .black => -200) * (cnt b (isP pl) sqs : Int))
      ((match pl with | .white => 200 | .black => 80) * (cnt b (isP pl) sqs : Int)) (passedBonus b pl) := by
  rw [← count_pawnsOf b hc]
  exact condFold (by cases pl <;> decide) (by cases pl <;> decide) (passedPst_box pl) _

/-- what the bound and the colour symmetry of the evaluation ask of a position -/
structure EvalOk (g : Game) : Prop where
  cons : Consistent g.board
  inc : g.inc = Game.incInit theCfg g.board
  king : ∀ pl, cnt g.board (isK pl) sqs = 1
  men : ∀ pl, cnt g.board (isP pl) sqs + cnt g.board (isO pl) sqs + cnt g.board (isK pl) sqs ≤ 16

/-- Where 31130 comes from (the lower bound is the mirror image): a white officer counts at most 1300 (piece-square
value) + 640 (mobility) = 1940, a white pawn 280 + 200 (passed) = 480, a black pawn 80 − 30 = 50, a black officer 100
(its mobility, subtracted) − 100 = 0, the kings 200 + 220, the two king-safety terms 550 + 210, the bishop pair 100; with
at most fifteen men besides the king a side that is at most 15 · 1940 + 15 · 50 + 420 + 860 -/
theorem total_box (T : SliderTables) (g : Game) (h : EvalOk g) :
    ∃ mob, mobility g.board = some mob ∧ 0 ≤ g.inc.phase ∧
      Box (-31130) 31130 (g.inc.pst + bishopPair g.board + mob + pawnStructure g.board) := by
  obtain ⟨hph, d, hd, hp⟩ := pstFold g.board sqs ⟨0, 0⟩
  obtain ⟨w, hw, bw⟩ := mobility_side T g.board h.cons .white (h.king .black)
  obtain ⟨k, hk, bk⟩ := mobility_side T g.board h.cons .black (h.king .white)
  have hKw := h.king .white
  have hKb := h.king .black
  have hW := h.men .white
  have hB := h.men .black
  rw [show sqs.foldl (incStep g.board) ⟨0, 0⟩ = g.inc from h.inc.symm ▸ rfl] at hph hd
  simp only [Int.zero_add] at hd
  refine ⟨w - k, ?_, hph, ?_⟩
  · unfold mobility
    simp only [Option.bind_eq_bind, Option.pure_def, hw, hk, Option.bind_some]
  · rw [hd]
    unfold pawnStructure
    refine (((hp.add (bishopPair_box g.board)).add (bw.sub bk)).add
      ((passed_side g.board h.cons .white).add (passed_side g.board h.cons .black))).mono ?_ ?_ <;>
      simp only [pstLo, pstHi, clsLo, clsHi] <;> omega

theorem absoluteEval_eq (g : Game) {m : Int} (hm : mobility g.board = some m) :
    absoluteEval g = forPhase (g.inc.pst + bishopPair g.board + m + pawnStructure g.board) g.inc.phase := by
  unfold absoluteEval
  rw [hm]
  rfl

/-- away from `i16::MIN` the `saturating_neg` of `eval` is plain negation -/
theorem eval_of_absolute {g : Game} {a : Int} (h : absoluteEval g = some a) (ha : a ≠ -32768) :
    eval g = some (match g.player with | .white => a | .black => -a) := by
  unfold eval
  rw [h]
  cases g.player
  · rfl
  · simp only [Option.bind_eq_bind, Option.bind_some, Option.pure_def, if_neg ha]

theorem eval_total_bounded (T : SliderTables) (g : Game) (h : EvalOk g) :
    ∃ v, eval g = some v ∧ -31130 ≤ v ∧ v ≤ 31130 := by
  obtain ⟨mob, hmob, hph, hbox⟩ := total_box T g h
  obtain ⟨a, ha, _, ha1, ha2⟩ := forPhase_box g.inc.phase hbox (by omega) (by omega) hph
  rw [eval_of_absolute ((absoluteEval_eq g hmob).trans ha) (by omega)]
  cases g.player
  · exact ⟨a, rfl, ha1, ha2⟩
  · exact ⟨-a, rfl, by omega, by omega⟩

open Rules in
theorem count_eq_cnt (b : Board) (f : Piece → Bool) : Rules.count b.squares f = cnt b f sqs := rfl

end Eval
end Tcheran
