import TcheranVerif.Model.SeeSeq
import TcheranVerif.Proofs.Board
/-!
# The pruned exchange loop computes the sign of the full swap list (C20)

`see`'s loop never builds a swap list: it keeps one running score and stops as soon as the side to capture is
already content.  `swapAbs` is the classical computation: the list of successive capturers is played out in full
and folded from the back with "capturing is optional" (`max 0`).  `abs_agree` shows both give the same verdict on
every sequence of capturers — provided the running score is never zero when the *opponent* is to capture, which
holds at threshold zero because every capturable value is an odd multiple of 100 (`Good`, `trace_good`).

`trace` is the sequence of capturers the model's own loop would use if nobody ever stopped early (same choice of
the least valuable attacker, same x-ray refreshes, same rule for the king).  `loop_trace` ties the loop to
`loopAbs` over that sequence, for every board; `loop_swaplist` puts the three together.
-/

namespace Tcheran
namespace See

theorem swapAbs_nonneg (vs : List Int) (onT : Int) : 0 ≤ swapAbs vs onT := by
  cases vs with
  | nil => exact Int.le_refl 0
  | cons v rest => exact Int.le_max_left 0 _

theorem loopAbs_stop (vs : List Int) (opp : Bool) (s victim : Int)
    (h : (opp = false ∧ s ≥ 0) ∨ (opp = true ∧ s ≤ 0)) : loopAbs vs opp s victim = s := by
  cases vs with
  | nil => rfl
  | cons v rest => exact if_pos h

theorem loopAbs_go (v : Int) (rest : List Int) (opp : Bool) (s victim : Int)
    (h : ¬ ((opp = false ∧ s ≥ 0) ∨ (opp = true ∧ s ≤ 0))) :
    loopAbs (v :: rest) opp s victim = loopAbs rest (!opp) (if opp then s - victim else s + victim) v :=
  if_neg h

/-- the running score is an odd multiple of 100 when the opponent is to capture and an even one when the mover is: it
is then never zero with the opponent to capture, the one case in which the loop (it stops, content with 0) and the
swap list (the opponent may still win material) disagree -/
theorem abs_agree (vs : List Int) : ∀ (s victim : Int), Good vs victim →
    (s % 200 = 100 → (0 ≤ loopAbs vs true s victim ↔ 0 ≤ s - swapAbs vs victim)) ∧
    (s % 200 = 0 → (0 ≤ loopAbs vs false s victim ↔ 0 ≤ s + swapAbs vs victim)) := by
  induction vs with
  | nil =>
    intro s victim _
    simp [loopAbs, swapAbs]
  | cons v rest ih =>
    intro s victim ⟨hv, hg⟩
    have hn := swapAbs_nonneg rest v
    constructor
    · intro hs
      by_cases h0 : s ≤ 0
      · rw [loopAbs_stop _ _ _ _ (Or.inr ⟨rfl, h0⟩), swapAbs]
        omega
      · rw [loopAbs_go _ _ _ _ _ (by simp [h0]), swapAbs]
        have := (ih (s - victim) v hg).2 (by omega)
        simp only [Bool.not_true, if_true, this]
        omega
    · intro hs
      by_cases h0 : s ≥ 0
      · rw [loopAbs_stop _ _ _ _ (Or.inl ⟨rfl, h0⟩), swapAbs]
        omega
      · rw [loopAbs_go _ _ _ _ _ (by simp [h0]), swapAbs]
        have := (ih (s + victim) v hg).1 (by omega)
        simp only [Bool.not_false, Bool.false_eq_true, if_false, this]
        omega

/-- once the mover is ahead by the value of its own man on the square the exchange cannot end below zero: the
opponent retakes once at most, and the mover then stands pat -/
theorem loopAbs_ahead (vs : List Int) (s victim : Int) (hpos : 0 < s) (hge : victim ≤ s) :
    0 ≤ loopAbs vs true s victim := by
  cases vs with
  | nil => exact Int.le_of_lt hpos
  | cons v rest =>
    rw [loopAbs_go _ _ _ _ _ (by simp; omega)]
    simp only [Bool.not_true, if_true]
    rw [loopAbs_stop _ _ _ _ (Or.inl ⟨rfl, by omega⟩)]
    omega

theorem other_flag (c mover : Player) : decide (c.other ≠ mover) = !decide (c ≠ mover) := by
  cases c <;> cases mover <;> simp [Player.other]

theorem loop_trace (b : Board) (mover : Player) (to : Sq) : ∀ (fuel : Nat) (st : St) (r : Int),
    loop b mover to fuel st = some r →
    r = loopAbs (trace b mover to fuel st) (decide (st.color.other ≠ mover)) st.score (pieceValue st.victim) := by
  intro fuel st r
  -- one case per exit of the body of `loop`, in its order; the hypotheses of a case are the tests made on the way,
  -- in that order (`hm`: the side to capture has no attacker left; `hk`, `hsq`, `hpc`: the three lookups)
  fun_induction loop b mover to fuel st
  case case1 =>
    -- out of fuel
    exact fun h => (Option.some.inj h).symm
  case case2 hstop =>
    -- the side to capture is content: whatever the sequence, `loopAbs` stops as well
    intro h
    rw [loopAbs_stop _ _ _ _ (by simpa using hstop)]
    exact (Option.some.inj h).symm
  case case3 _ _ hm =>
    -- no attacker left: the sequence is empty
    intro h
    rw [trace]
    -- the `let`s of the body are local definitions here; `+zetaDelta` unfolds them
    simp +zetaDelta only [if_pos hm]
    exact (Option.some.inj h).symm
  -- one of the three lookups fails (the `unwrap`s): the loop has no result
  case case4 | case5 | case6 => exact nofun
  case case7 _ _ hm _ hk _ hsq _ hpc _ hking =>
    -- a king would capture and could be retaken: the loop stops, the sequence ends
    intro h
    rw [trace]
    simp +zetaDelta only [if_neg hm, hk, hsq, hpc, if_pos hking]
    exact (Option.some.inj h).symm
  case case8 hstop _ hm _ hk _ hsq _ hpc _ hking _ _ _ _ _ _ _ ih =>
    -- the capture is made: one more capturer, and `loopAbs` steps to the same score and victim
    intro h
    rw [trace]
    simp +zetaDelta only [if_neg hm, hk, hsq, hpc, if_neg hking]
    rw [loopAbs_go _ _ _ _ _ (by simpa using hstop), ih h]
    congr 1
    · exact other_flag _ _
    · simp +zetaDelta only [decide_eq_true_eq, ne_eq, ite_not]

theorem value_odd (k : PieceKind) (h : k ≠ .king) : pieceValue k % 200 = 100 := by
  cases k <;> first | decide | exact absurd rfl h

/-- a king captures only when nothing can capture back, so a king is never captured -/
theorem trace_good (b : Board) (mover : Player) (to : Sq) : ∀ (fuel : Nat) (st : St),
    (st.victim = .king → st.attackers &&& b.occFor st.color.other = 0#64) →
    Good (trace b mover to fuel st) (pieceValue st.victim) := by
  intro fuel st
  fun_induction trace b mover to fuel st
  -- the one case in which a capture is made: `hm`, the side to move has an attacker; `hking`, it is not a king
  -- that could be retaken
  case case7 hm _ _ _ _ _ _ _ hking _ _ _ _ _ _ _ ih =>
    intro hinv
    refine ⟨value_odd _ fun hk => hm (hinv hk), ih fun hk' => ?_⟩
    -- a king has captured: nothing could retake before, and a king uncovers no slider
    have hX := Decidable.not_not.1 (not_and.1 hking hk')
    simp +zetaDelta only at hk'
    simp +zetaDelta only [hk', reduceCtorEq, or_self, if_false]
    rw [BitVec.and_assoc, BitVec.and_comm (_ ^^^ _), ← BitVec.and_assoc, hX, BitVec.zero_and]
  all_goals exact fun _ => trivial

theorem loop_swaplist (b : Board) (mover : Player) (to : Sq) (fuel : Nat) (st : St) (r : Int)
    (hcol : st.color = mover) (hodd : st.score % 200 = 100)
    (hinv : st.victim = .king → st.attackers &&& b.occFor st.color.other = 0#64)
    (h : loop b mover to fuel st = some r) :
    0 ≤ r ↔ 0 ≤ st.score - swapAbs (trace b mover to fuel st) (pieceValue st.victim) := by
  rw [loop_trace b mover to fuel st r h, hcol, decide_eq_true (other_ne mover)]
  exact (abs_agree _ _ _ (trace_good b mover to fuel st hinv)).1 hodd

theorem see_eq (g : Game) (mv : Move) (thr : Int) :
    see g mv thr = (do
      let moved ← g.board.pieceAt mv.src
      let occ ← occAfter g mv
      let final ← loop g.board g.player mv.dst 64 { initSt g mv moved occ with score := gain g mv - thr }
      pure (final ≥ 0)) := by
  unfold see occAfter
  simp only [Option.bind_eq_bind]
  cases g.board.pieceAt mv.src with
  -- not `rfl`: it compares the two continuations first, which are not the same term, and does not come back
  | none => simp only [Option.bind_none]
  | some moved =>
    simp only [Option.bind_some]
    generalize (if mv.isEnPassant = true then _ else _ : Option BB) = oo
    cases oo with
    | none => simp only [Option.bind_none]
    | some occ =>
      simp only [Option.bind_some]
      congr 3
      unfold gain
      cases mv.promotion <;> cases g.board.pieceAt mv.dst <;> simp only <;> omega

theorem see_eq_loop (g : Game) (mv : Move) (thr : Int) (moved : Piece) (occ : BB)
    (hsrc : g.board.pieceAt mv.src = some moved) (hocc : occAfter g mv = some occ) :
    see g mv thr = (loop g.board g.player mv.dst 64 { initSt g mv moved occ with score := gain g mv - thr }).map
      fun final => decide (final ≥ 0) := by
  rw [see_eq, hsrc, hocc]
  simp only [Option.bind_eq_bind, Option.bind_some, Option.map_eq_bind]
  rfl

theorem occAfter_plain (g : Game) (mv : Move) (h : mv.isEnPassant = false) :
    occAfter g mv = some ((g.board.occupancy ^^^ bb mv.src) ||| bb mv.dst) := by
  unfold occAfter
  rw [h]
  rfl

/-- a promotion never loses material -/
theorem gain_ge (g : Game) (mv : Move) (captured : Piece) (h : g.board.pieceAt mv.dst = some captured) :
    pieceValue captured.kind ≤ gain g mv := by
  unfold gain
  rw [h]
  cases mv.promotion with
  | none => simp only; omega
  | some pr =>
    have : pieceValue .pawn ≤ pieceValue pr.piece := by cases pr <;> decide
    simp only; omega

theorem swap_succ (t : Sq) (fuel : Nat) (b : Rules.RBoard) (c : Player) (onT : Int) :
    swap t (fuel + 1) b c onT =
      (match pickLeast (attackersOn b c t) with
      | none => (0, false)
      | some (s, k) =>
        if k == .king && !(attackersOn b c.other t).isEmpty then
          (0, decide (((attackersOn b c t).filter (fun a => a.2 == k)).length > 1))
        else
          (max 0 (onT - (swap t fuel (Rules.setSq (Rules.setSq b s none) t (some ⟨k, c⟩)) c.other (pieceValue k)).1),
           decide (((attackersOn b c t).filter (fun a => a.2 == k)).length > 1) ||
             (swap t fuel (Rules.setSq (Rules.setSq b s none) t (some ⟨k, c⟩)) c.other (pieceValue k)).2)) := by
  rfl

theorem swap_is_swapAbs (t : Sq) : ∀ (fuel : Nat) (b : Rules.RBoard) (c : Player) (onT : Int),
    (swap t fuel b c onT).1 = swapAbs (seq t fuel b c) onT := by
  intro fuel
  induction fuel with
  | zero => intro b c onT; rfl
  | succ fuel ih =>
    intro b c onT
    rw [swap_succ]
    unfold seq
    cases pickLeast (attackersOn b c t) with
    | none => rfl
    | some sk =>
      obtain ⟨s, k⟩ := sk
      simp only
      split
      · rfl
      · simp only [swapAbs]
        rw [← ih]

end See
end Tcheran
