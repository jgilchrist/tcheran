import TcheranVerif.Proofs.SeeSwap
import TcheranVerif.Proofs.Mirror
/-!
# The exchange evaluator is invariant under colour swap + rank flip (C20 `see_mirror`)

By simulation: the state of the mirrored run is the flipped state of the original run at every iteration
of the loop (`loop_mirror`); the choice among equally valued attackers commutes with the flip because it
is colour-relative: White takes the least square, Black the least square of the flipped set (`pickSquare_mirror`).
-/

namespace Tcheran
open Board Geometry
namespace See

def St.mirror (st : St) : St :=
  { score := st.score, victim := st.victim, occupied := BB.flipV st.occupied,
    attackers := BB.flipV st.attackers, diag := BB.flipV st.diag, orth := BB.flipV st.orth,
    color := st.color.other }

theorem other_ne_other (a b : Player) : a.other ≠ b.other ↔ a ≠ b := not_congr (other_eq_other a b)

theorem pickSquare_mirror (color : Player) (X : BB) :
    pickSquare color.other (BB.flipV X) = (pickSquare color X).map Sq.flip := by
  cases color
  · show (BB.lsbSq? (BB.flipV (BB.flipV X))).map Sq.flip = (BB.lsbSq? X).map Sq.flip
    rw [flipV_flipV]
  · show BB.lsbSq? (BB.flipV X) = ((BB.lsbSq? (BB.flipV X)).map Sq.flip).map Sq.flip
    cases BB.lsbSq? (BB.flipV X) with
    | none => rfl
    | some s => rw [Option.map_some, Option.map_some, flip_flip]

theorem match_congr' {α β : Type} (o : Option α) (f g : α → Option β) (h : ∀ k, f k = g k) :
    (match o with | none => none | some k => f k) = (match o with | none => none | some k => g k) := by
  cases o with
  | none => rfl
  | some k => exact h k

theorem match_flip_congr {β : Type} (o : Option Sq) (f g : Sq → Option β) (h : ∀ s, f s.flip = g s) :
    (match o.map Sq.flip with | none => none | some s => f s) = (match o with | none => none | some s => g s) := by
  cases o with
  | none => rfl
  | some k => exact h k

theorem match_swap_congr {β : Type} (o : Option Piece) (f g : Piece → Option β) (h : ∀ pc, f pc.swap = g pc) :
    (match o.map Piece.swap with | none => none | some s => f s) = (match o with | none => none | some s => g s) := by
  cases o with
  | none => rfl
  | some k => exact h k

theorem loop_mirror (T : SliderTables) (b : Board) (mover : Player) (to : Sq) (fuel : Nat) (st : St) :
    loop b.mirror mover.other to.flip fuel st.mirror = loop b mover to fuel st := by
  induction fuel generalizing st with
  | zero => rfl
  | succ fuel ih =>
    rw [loop, loop]
    simp only [St.mirror, ne_eq, other_eq_other, mirror_occFor, mirror_piecesOf, ← flipV_and, flipV_eq_zero,
      pickSquare_mirror]
    -- the two stop tests and the choice of the kind are the same on both sides
    refine ite_congr rfl (fun _ => rfl) fun _ => ite_congr rfl (fun _ => rfl) fun _ => ?_
    split
    · rfl
    · generalize pickSquare _ _ = ps
      cases ps with
      | none => rfl
      | some asq =>
        simp only [Option.map_some, mirror_pieceAt_flip]
        generalize b.pieceAt asq = pa
        cases pa with
        | none => rfl
        | some apc =>
          -- `dsimp`, so that `apc.swap.kind` becomes `apc.kind` in the `Decidable` instances of the tests too
          dsimp only [Option.map_some, Piece.swap]
          refine ite_congr rfl (fun _ => rfl) fun _ => ?_
          rw [← ih]
          congr 1
          simp only [St.mirror, apply_ite BB.flipV, flipV_or, flipV_and, flipV_xor, flipV_bb, ← bishopAttacks_flip T,
            ← rookAttacks_flip T]

theorem allAttackersOf_mirror (T : SliderTables) (b : Board) (s : Sq) (occ : BB) :
    allAttackersOf b.mirror s.flip (BB.flipV occ) = BB.flipV (allAttackersOf b s occ) := by
  unfold allAttackersOf
  rw [show pawnAttacks s.flip .white = _ from pawnAttacks_flip s .black,
    show pawnAttacks s.flip .black = _ from pawnAttacks_flip s .white,
    show b.mirror.pawnsOf .black = _ from mirror_pawnsOf b .white,
    show b.mirror.pawnsOf .white = _ from mirror_pawnsOf b .black,
    show b.mirror.knights = BB.flipV b.knights from rfl, show b.mirror.kings = BB.flipV b.kings from rfl,
    knightAttacks_flip, kingAttacks_flip, bishopAttacks_flip T, rookAttacks_flip T, mirror_allDiag, mirror_allOrth]
  simp only [← flipV_and, ← flipV_or]
  -- the two pawn terms have changed places
  rw [BitVec.or_comm (pawnAttacks s .black &&& b.pawnsOf .white)]

theorem swap_kind (pc : Piece) : pc.swap.kind = pc.kind := rfl

theorem occAfter_mirror (c : Cfg) (g : Game) (mv : Move) :
    occAfter (Game.mirror c g) mv.mirror = (occAfter g mv).map BB.flipV := by
  unfold occAfter
  rw [mirror_board, mirror_ep, mirror_src, mirror_dst, mirror_isEnPassant, mirror_occupancy]
  split
  · cases g.ep <;> simp only [Option.map_none, Option.map_some, flipV_xor, flipV_or, flipV_bb]
  · simp only [Option.map_some, flipV_xor, flipV_or, flipV_bb]

theorem gain_mirror (c : Cfg) (g : Game) (mv : Move) : gain (Game.mirror c g) mv.mirror = gain g mv := by
  unfold gain
  rw [mirror_board, mirror_dst, mirror_isEnPassant, mirror_promotion, mirror_pieceAt_flip]
  cases g.board.pieceAt mv.dst <;> simp only [Option.map_none, Option.map_some, swap_kind]

theorem initSt_mirror (T : SliderTables) (c : Cfg) (g : Game) (mv : Move) (moved : Piece) (occ : BB) :
    initSt (Game.mirror c g) mv.mirror moved.swap (BB.flipV occ) = (initSt g mv moved occ).mirror := by
  unfold initSt
  rw [gain_mirror, mirror_board, mirror_player, mirror_dst, allAttackersOf_mirror T, mirror_allDiag, mirror_allOrth]
  simp only [St.mirror, flipV_and, placed, mirror_promotion, swap_kind]

theorem see_mirror (T : SliderTables) (c : Cfg) (g : Game) (mv : Move) (thr : Int) :
    see (Game.mirror c g) mv.mirror thr = see g mv thr := by
  rw [see_eq, see_eq, occAfter_mirror, gain_mirror, mirror_board, mirror_player, mirror_src, mirror_dst,
    mirror_pieceAt_flip]
  cases g.board.pieceAt mv.src with
  | none => simp only [Option.map_none, Option.bind_eq_bind, Option.bind_none]
  | some moved =>
    cases occAfter g mv with
    | none => simp only [Option.map_none, Option.map_some, Option.bind_eq_bind, Option.bind_some, Option.bind_none]
    | some occ =>
      simp only [Option.map_some, Option.bind_eq_bind, Option.bind_some]
      rw [initSt_mirror T, ← loop_mirror T g.board g.player mv.dst 64]
      rfl

end See
end Tcheran
