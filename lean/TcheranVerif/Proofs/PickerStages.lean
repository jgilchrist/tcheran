import TcheranVerif.Proofs.Picker
/-!
# Stage lemmas of the move picker, `MovePicker::next` and the drained stream

Every block of `MovePicker::next` is `if stage = X then body else skip`. `StepOk env X st r` is what block `X`
may do: fall through silently to a stage of lower rank, or emit. The skip half is proved once (`block_ok`).
A body that only moves on to another stage is `StepOk.fall`: the drop in rank pays the measure. A body that
yields takes one move out of a segment of the array: that is `Take`, which `next_best_move` (`nb_take`) and
the killer / counter scan (`prom_take`) both perform, and `take_ok` turns a `Take` into `Emit` or `Silent`.
Each stage lemma then says which segment is taken from, what else is still to yield (`O`), and supplies the
cursors of the new state.

`next_ok` chains the ten blocks; `drain_spec` is then an induction on the measure.
-/

namespace Tcheran
namespace Picker

/-- one element (or none) is taken out of the segment `[lo, hi)`, which shrinks to `[lo', hi)`;
copies of the hash move may be dropped on the way -/
structure Take (st st' : State) (lo hi lo' : Nat) (r : Option Move) : Prop where
  le : lo ≤ lo' ∧ lo' ≤ hi
  split : ∀ x, notHash st x → (seg st.moves lo hi x ↔ (r = some x ∨ seg st'.moves lo' hi x))
  fresh : ∀ m, r = some m → notHash st m ∧ ¬ seg st'.moves lo' hi m

/-- how both callers get it: the segment keeps its set of moves, and what now lies in front of `lo'` is
hash-move copies and the result -/
theorem Take.of_prefix {st st' : State} {lo hi lo' : Nat} {r : Option Move} (hinj : Inj st'.moves)
    (hle : lo ≤ lo' ∧ lo' ≤ hi) (hseg : ∀ x, seg st'.moves lo hi x ↔ seg st.moves lo hi x)
    (hpre : ∀ k, lo ≤ k → k < lo' → st'.moves[k]? = st.hash ∨ st'.moves[k]? = r)
    (hres : ∀ m, r = some m → notHash st m ∧ seg st'.moves lo lo' m) : Take st st' lo hi lo' r := by
  refine ⟨hle, fun x hx => ?_, fun m hm => ⟨(hres m hm).1, hinj.seg_disjoint (Nat.le_refl _) (hres m hm).2⟩⟩
  rw [← hseg x, seg_append lo lo' hi hle.1 hle.2]
  refine or_congr_left ⟨?_, fun e => (hres x e).2⟩
  rintro ⟨k, k1, k2, e⟩
  rcases hpre k k1 k2 with c | c
  · exact absurd (e.symm.trans c) hx
  · exact c.symm.trans e

theorem nb_take {limit : Nat} {st st' : State} {r} (h : NBSpec limit st r st') :
    Take st st' st.idx limit st'.idx (r.map Prod.fst) := by
  have hr := h.result
  cases r with
  | none =>
    exact .of_prefix h.inj ⟨h.idx_ge, h.idx_le⟩ h.segs (fun k k1 k2 => Or.inl (hr.2 k k1 (hr.1 ▸ k2)))
      (fun _ e => nomatch e)
  | some ms =>
    obtain ⟨m, s⟩ := ms
    obtain ⟨r1, r2, r3, r4⟩ := hr
    refine .of_prefix h.inj ⟨h.idx_ge, h.idx_le⟩ h.segs (fun k k1 k2 => ?_) (fun m' e => ?_)
    · by_cases c : k < st'.idx - 1
      · exact Or.inl (r4 k k1 c)
      · rw [show k = st'.idx - 1 by omega]; exact Or.inr r2
    · cases e; exact ⟨r3, st'.idx - 1, by omega, by omega, r2⟩

theorem nb_none {limit : Nat} {st st' : State} (h : NBSpec limit st none st') (x : Move) (hx : notHash st x) :
    ¬ seg st.moves st.idx limit x := by
  have T := nb_take h
  rw [h.result.1] at T
  exact fun a => seg_empty _ _ x (((T.split x hx).1 a).resolve_left nofun)

theorem prom_take {t : Move} {st st' : State} {r} (h : PromSpec t st r st')
    (hfq : st.firstQuiet ≤ st.moves.size) :
    Take st st' st.firstQuiet st.moves.size st'.firstQuiet r := by
  have hr := h.res
  -- a move found at `firstQuiet`: the quiet segment is not empty
  have hlt : st'.moves[st.firstQuiet]? = some t → st.firstQuiet < st.moves.size := fun e =>
    h.size ▸ (Array.getElem?_eq_some_iff.1 e).1
  cases r with
  | some m =>
    obtain ⟨rfl, r2, r3, r4⟩ := hr
    refine .of_prefix h.inj (by have := hlt r4; omega) h.segs (fun k k1 k2 => Or.inr ?_) (fun m' e => ?_)
    · rw [show k = st.firstQuiet by omega]; exact r4
    · cases e; exact ⟨r2, st.firstQuiet, Nat.le_refl _, by omega, r4⟩
  | none =>
    rcases hr with e | ⟨e1, e2, e3⟩
    · exact .of_prefix h.inj (by omega) h.segs (fun k k1 k2 => by omega) (fun _ e => nomatch e)
    · refine .of_prefix h.inj (by have := hlt e3; omega) h.segs (fun k k1 k2 => Or.inl ?_)
        (fun _ e => nomatch e)
      rw [show k = st.firstQuiet by omega, e3]; exact e1

/-- `st0` is the state the block started from; the segment is read in `st`, which may be `st0` with the stage
already advanced -/
theorem take_ok {env : Env} {st0 st st' : State} {lo hi lo' : Nat} {r : Option Move} {O O' : Move → Prop}
    (T : Take st st' lo hi lo' r) (inv' : Inv env st') (hh : st'.hash = st.hash)
    (h0 : ∀ x, InP env st0 x ↔ (seg st.moves lo hi x ∨ O x) ∧ notHash st x)
    (h1 : ∀ x, InP env st' x ↔ (seg st'.moves lo' hi x ∨ O' x) ∧ notHash st' x)
    (hOO : ∀ x, O' x ↔ O x) (hO : ∀ x, O x → ¬ seg st.moves lo hi x)
    (hmu : mu env st' < mu env st0) :
    match r with
    | some m => Emit env st0 m st'
    | none => Silent env st0 st' := by
  have rest : ∀ x, InP env st' x ↔ InP env st0 x ∧ r ≠ some x := fun x => by
    rw [h0, h1, show notHash st' x ↔ notHash st x by unfold notHash; rw [hh], hOO]
    constructor
    · rintro ⟨a, b⟩
      refine ⟨⟨a.imp_left fun a => (T.split x b).2 (Or.inr a), b⟩, fun e => ?_⟩
      rcases a with a | a
      · exact (T.fresh x e).2 a
      · exact hO x a ((T.split x b).2 (Or.inl e))
    · rintro ⟨⟨a | a, b⟩, c⟩
      · exact ⟨Or.inl (((T.split x b).1 a).resolve_left c), b⟩
      · exact ⟨Or.inr a, b⟩
  cases r with
  | none => exact ⟨inv', fun x => (rest x).trans (and_iff_left nofun), Nat.le_of_lt hmu⟩
  | some m =>
    have f1 := (T.fresh m rfl).1
    refine ⟨inv', (h0 m).2 ⟨Or.inl ((T.split m f1).2 (Or.inl rfl)), f1⟩, fun x => ?_, hmu⟩
    rw [rest x, ne_eq, Option.some.injEq, eq_comm]

def StepOk (env : Env) (X : Stage) (st : State) : Step → Prop
  | .ok st' => Silent env st st' ∧ rank st'.stage < rank X
  | .error (some m, st') => Emit env st m st'
  | .error (none, _) => False

theorem block_ok {env : Env} {X : Stage} {st : State} {body : Step} (h : Inv env st)
    (hr : rank st.stage ≤ rank X) (hb : st.stage = X → StepOk env X st body) :
    StepOk env X st (if st.stage = X then body else .ok st) := by
  split
  · next hs => exact hb hs
  · next hs => exact ⟨Silent.refl h, Nat.lt_of_le_of_ne hr fun e => hs (rank_inj _ _ e)⟩

theorem StepOk.fall {env : Env} {X : Stage} {st st' : State} (hs : st.stage = X) (inv' : Inv env st')
    (same : ∀ x, InP env st' x ↔ InP env st x) (hr : rank st'.stage < rank X) : StepOk env X st (.ok st') :=
  ⟨⟨inv', same, Nat.le_of_lt (mu_lt_of_rank_lt inv' (hs ▸ hr))⟩, hr⟩

theorem StepOk.bind {env : Env} {st : State} {X Y : Stage} {r : Step} {f : State → Step}
    (h1 : StepOk env X st r) (h2 : ∀ s1, Inv env s1 → rank s1.stage < rank X → StepOk env Y s1 (f s1)) :
    StepOk env Y st (r >>= f) := by
  cases r with
  | error e => obtain ⟨o, s⟩ := e; cases o <;> exact h1
  | ok s1 =>
    have hg := h2 s1 h1.1.inv h1.2
    show StepOk env Y st (f s1)
    cases hf : f s1 with
    | ok s2 => rw [hf] at hg; exact ⟨Silent.trans h1.1 hg.1, hg.2⟩
    | error e =>
      obtain ⟨o, s2⟩ := e
      rw [hf] at hg
      cases o with
      | none => exact hg.elim
      | some m => exact Silent.emit h1.1 hg

theorem sBest_ok (env : Env) (st : State) (h : Inv env st) (hr : rank st.stage ≤ rank .bestMove) :
    StepOk env .bestMove st (sBest st) := by
  unfold sBest
  refine block_ok h hr fun hs => ?_
  obtain ⟨hm, hsc, hi, hf⟩ := h.pre (by rw [hs]; rfl)
  have inv1 : Inv env { st with stage := .genCaptures } := Inv.of_pre rfl hm hsc hi hf h.hashOk h.loudHash
  have hin : ∀ x, InP env { st with stage := .genCaptures } x ↔ (InP env st x ∧ notHash st x) := fun x => by
    unfold InP; simp only [hs]; exact Iff.rfl
  have hr1 : rank Stage.genCaptures < rank Stage.bestMove := by decide
  simp only
  split
  · next m hh =>
    refine ⟨inv1, ?_, fun x => ?_, mu_lt_of_rank_lt inv1 (hs ▸ hr1)⟩
    · unfold InP; simp only [hs]; exact h.hashOk m hh
    · rw [hin x]; simp only [notHash, hh, ne_eq, Option.some.injEq]
  · next hh =>
    refine StepOk.fall hs inv1 (fun x => ?_) hr1
    rw [hin x]; simp [notHash, hh]

theorem sGenCaptures_ok (env : Env) (hE : EnvOk env) (st : State) (h : Inv env st)
    (hr : rank st.stage ≤ rank .genCaptures) : StepOk env .genCaptures st (sGenCaptures env st) := by
  unfold sGenCaptures
  refine block_ok h hr fun hs => ?_
  obtain ⟨hm, _, hidx, hfb⟩ := h.pre (by rw [hs]; rfl)
  let st1 : State := pushMoves { st with stage := .goodCaptures } env.captures
  let st3 : State := { st1 with
    capturesEnd := st1.moves.size, firstQuiet := st1.moves.size,
    scores := setScores st1.scores st1.moves env.scoreTactical 0 st1.moves.size }
  have m3 : st3.moves = env.captures.toArray := by show st.moves ++ _ = _; rw [hm]; simp
  have sz3 : st3.moves.size = env.captures.length := by rw [m3]; rfl
  have seg3 : ∀ x, seg st3.moves 0 st3.capturesEnd x ↔ x ∈ env.captures := fun x => by
    rw [show st3.capturesEnd = env.captures.length from sz3, m3]; exact seg_toArray _ x
  refine StepOk.fall hs (st' := st3) ?_ (fun x => ?_) (by decide : rank Stage.goodCaptures < rank Stage.genCaptures)
  · exact Inv.build (m3 ▸ (inj_iff_nodup _).2 hE.capsNodup)
      ((setScores_size _ _ _ _ _).trans (pushMoves_ssize h.ssize _)) h.hashOk h.loudHash ⟨sz3, Nat.le_refl _, seg3⟩
      (fun c => by rcases c with c | ⟨c, _⟩ <;> cases c) rfl
      ⟨fun fb e => (by rw [show st3.firstBadCapture = none from hfb] at e; cases e), rfl, rfl, hfb,
        (show st3.idx = 0 from hidx) ▸ Nat.zero_le _⟩
  · unfold InP
    rw [show st3.stage = .goodCaptures from rfl]
    simp only [hs, show st3.idx = 0 from hidx, seg3 x]
    exact Iff.rfl

/-- a move scored below `goodCaptureScore` ends the stage: it and what follows it are the bad captures -/
theorem sGoodCaptures_ok (env : Env) (hE : EnvOk env) (st : State) (h : Inv env st)
    (hr : rank st.stage ≤ rank .goodCaptures) : StepOk env .goodCaptures st (sGoodCaptures st) := by
  unfold sGoodCaptures
  refine block_ok h hr fun hs => ?_
  obtain ⟨_, c2, c3⟩ := h.caps (by rw [hs]; rfl)
  obtain ⟨fbOk, n1, n2, g1, g2⟩ := h.cur hs
  split
  next r st' e =>
  have hnb := nextBest_spec e h.inj g2 c2 (by omega)
  have R : SameRegions st st' := nb_regions hnb (Or.inl (Nat.le_refl _))
  have T := nb_take hnb
  have hP : ∀ x, InP env st x ↔ (seg st.moves st.idx st.capturesEnd x ∨ x ∈ qs env st) ∧ notHash st x :=
    fun x => by unfold InP; simp only [hs]
  -- `st'` stays as a name for the statement of `hcont`; its proof and what follows it substitute `F`
  obtain ⟨mvs, scs, i, F⟩ := hnb.frame
  -- once the good captures are used up, whatever `firstBadCapture` and `idx` have become: the bad segment
  -- is what is left of them
  have hcont : ∀ (fb : Option Nat) (ix : Nat), (∀ k, fb = some k → k < st.capturesEnd) →
      (∀ x, notHash st x → (seg st.moves st.idx st.capturesEnd x ↔
        badSeg { st' with firstBadCapture := fb, idx := ix } x)) →
      StepOk env .goodCaptures st
        (if st'.onlyCaptures then
          match fb with
          | none => .ok { st' with firstBadCapture := fb, idx := ix, stage := .done }
          | some j => .ok { st' with firstBadCapture := fb, idx := j, stage := .badCaptures }
        else .ok { st' with firstBadCapture := fb, idx := ix, stage := .genQuiets }) := by
    intro fb ix sfb sseg
    have hsame : ∀ (s2 : State) x, (InP env s2 x ↔ (badSeg { st' with firstBadCapture := fb, idx := ix } x ∨
        x ∈ qs env st) ∧ notHash st x) → (InP env s2 x ↔ InP env st x) :=
      fun s2 x e => e.trans ((hP x).trans (and_congr_left fun n => or_congr_left (sseg x n))).symm
    subst F
    have sz : mvs.size = st.capturesEnd := hnb.size.trans n1
    by_cases hl : st.onlyCaptures = true
    · rw [if_pos hl]
      have hqs : ∀ x, ¬ x ∈ qs env st := fun x => by unfold qs; rw [hl]; simp
      cases fb with
      | none =>
        refine StepOk.fall hs ?_ (fun x => hsame _ x ?_) (by simp [rank])
        · exact h.to R.restage hs rfl ⟨nofun, trivial⟩ nofun
        · unfold InP badSeg; simp [hqs]
      | some j =>
        refine StepOk.fall hs ?_ (fun x => hsame _ x ?_) (by simp [rank])
        · exact h.to R.restage hs rfl
            ⟨sfb, Nat.le_of_lt (sfb j rfl), fun _ => sz, fun c => absurd (c.symm.trans hl) nofun⟩
            (fun c => c.elim nofun fun c => absurd (c.2.symm.trans hl) nofun)
        · unfold InP badSeg
          simp only [hl, hqs, or_false, false_and, reduceCtorEq]
          exact Iff.rfl
    · rw [if_neg hl]
      have hl0 : st.onlyCaptures = false := by simpa using hl
      refine StepOk.fall hs ?_ (fun x => hsame _ x ?_) (by simp [rank])
      · exact h.to R.restage hs rfl ⟨sfb, hl0, sz, n2⟩ nofun
      · unfold InP
        rw [show qs env st = env.quiets by unfold qs; rw [hl0]; rfl]
        exact Iff.rfl
  subst F
  cases r with
  | none =>
    refine hcont st.firstBadCapture i fbOk fun x hx => ?_
    unfold badSeg; rw [g1]
    exact ⟨fun a => absurd a (nb_none hnb x hx), fun a => a.elim⟩
  | some ms =>
    obtain ⟨mv, score⟩ := ms
    simp only
    have il : i ≤ st.capturesEnd := hnb.idx_le
    obtain ⟨r1, r2, _, _⟩ : st.idx < i ∧ mvs[i - 1]? = some mv ∧ _ := hnb.result
    by_cases hsc : score < goodCaptureScore
    · rw [if_pos hsc]
      have hlt : i - 1 < st.capturesEnd := by omega
      refine hcont (some (i - 1)) st.capturesEnd (fun k e => by cases e; exact hlt) fun x hx => ?_
      rw [T.split x hx]
      show _ ↔ seg mvs (i - 1) st.capturesEnd x
      rw [seg_split hlt, r2, show i - 1 + 1 = i by omega]
      simp only [Option.map_some]
    · rw [if_neg hsc]
      refine take_ok (st0 := st) (O := fun x => x ∈ qs env st) (O' := fun x => x ∈ qs env st) T ?_ rfl hP
        (fun x => by unfold InP; simp only [hs]; exact Iff.rfl) (fun x => Iff.rfl) (fun x a b => ?_) ?_
      · exact h.to R hs hs ⟨fbOk, hnb.size.trans n1, n2, g1, il⟩ id
      · -- a capture is not among the quiets
        unfold qs at a; split at a
        · cases a
        · exact hE.disjoint x ((c3 x).1 (seg_mono (Nat.zero_le _) (Nat.le_refl _) b)) a
      · unfold mu work; simp only [hs]
        omega

theorem sGenQuiets_ok (env : Env) (hE : EnvOk env) (st : State) (h : Inv env st)
    (hr : rank st.stage ≤ rank .genQuiets) : StepOk env .genQuiets st (sGenQuiets env st) := by
  unfold sGenQuiets
  refine block_ok h hr fun hs => ?_
  obtain ⟨c1, c2, c3⟩ := h.caps (by rw [hs]; rfl)
  obtain ⟨fbOk, hl, n1, n2⟩ := h.cur hs
  let st1 : State := pushMoves { st with stage := .killer1 } env.quiets
  have m1 : st1.moves = st.moves ++ env.quiets.toArray := rfl
  have sz1 : st1.moves.size = st.moves.size + env.quiets.length := by rw [m1]; simp
  have ce1 : st1.capturesEnd = st.capturesEnd := rfl
  have fq1 : st1.firstQuiet = st.firstQuiet := rfl
  have hlow : ∀ lo x, seg st1.moves lo st.capturesEnd x ↔ seg st.moves lo st.capturesEnd x :=
    fun lo x => seg_append_left _ c2 x
  have hqseg : ∀ x, seg st1.moves st.capturesEnd st1.moves.size x ↔ x ∈ env.quiets := fun x => by
    rw [sz1, m1, ← n1]; exact seg_append_right _ _ x
  refine StepOk.fall hs (st' := st1) ?_ (fun x => ?_) (by decide : rank Stage.killer1 < rank Stage.genQuiets)
  · refine Inv.build ?_ (pushMoves_ssize h.ssize _) h.hashOk h.loudHash
      ⟨c1, by omega, fun x => (hlow 0 x).trans (c3 x)⟩ (fun _ => ⟨by omega, hqseg⟩) rfl
      ⟨fbOk, hl, by omega, by omega⟩
    rw [m1, inj_iff_nodup, Array.toList_append]
    refine List.nodup_append.2 ⟨(inj_iff_nodup _).1 h.inj, hE.quietsNodup, fun a ha b hb e => ?_⟩
    -- a capture is not among the quiets
    exact hE.disjoint a ((c3 a).1 (n1 ▸ (seg_toArray st.moves.toList a).2 ha)) (e ▸ hb)
  · unfold InP
    simp only [hs, show st1.stage = .killer1 from rfl]
    show (_ ∨ seg st1.moves st.firstQuiet st1.moves.size x) ∧ notHash st x ↔ _
    rw [n2, hqseg x, badSeg_congr (s := st) (s' := st1) rfl rfl hlow x]

/-- the part of the "still to yield" set that lies among the captures -/
def lowSeg (s : State) (x : Move) : Prop :=
  match s.stage with
  | .badCaptures => seg s.moves s.idx s.capturesEnd x
  | .scoreQuiets => False
  | _ => badSeg s x

/-- stages in which a scan runs (the stage is advanced before the scan) -/
def PQ (s : State) : Prop :=
  s.stage = .killer2 ∨ s.stage = .counterMove ∨ s.stage = .scoreQuiets ∨
    (s.stage = .badCaptures ∧ s.onlyCaptures = false)

theorem PQ.hasQuiets {s : State} : PQ s → HasQuiets s
  | .inl c | .inr (.inl c) | .inr (.inr (.inl c)) => Or.inl (by rw [c]; rfl)
  | .inr (.inr (.inr c)) => Or.inr c

theorem InP_shape {env : Env} {s : State} (hP : PQ s) (x : Move) :
    InP env s x ↔ (lowSeg s x ∨ seg s.moves s.firstQuiet s.moves.size x) ∧ notHash s x := by
  unfold InP lowSeg
  rcases hP with c | c | c | ⟨c, l⟩ <;> simp only [c]
  · simp
  · simp [l]

theorem lowSeg_caps {s : State} {x : Move} (h : lowSeg s x) : seg s.moves 0 s.capturesEnd x := by
  unfold lowSeg at h
  split at h
  · exact seg_mono (Nat.zero_le _) (Nat.le_refl _) h
  · exact h.elim
  · exact badSeg_caps h

theorem lowSeg_congr {s s' : State} (h1 : s'.stage = s.stage) (h2 : s'.idx = s.idx)
    (h3 : s'.capturesEnd = s.capturesEnd) (h4 : s'.firstBadCapture = s.firstBadCapture)
    (h5 : ∀ k, k < s.capturesEnd → s'.moves[k]? = s.moves[k]?) (x : Move) : lowSeg s' x ↔ lowSeg s x := by
  have hm : ∀ lo x, seg s'.moves lo s.capturesEnd x ↔ seg s.moves lo s.capturesEnd x :=
    fun lo => seg_congr fun k _ k2 => h5 k k2
  unfold lowSeg
  rw [h1, h2, h3]
  split
  · exact hm _ x
  · exact Iff.rfl
  · exact badSeg_congr h4 h3 hm x

/-- a killer / counter scan out of block `X`; `s1` is `st` with the stage (and perhaps the cursor) already
advanced -/
theorem prom_step {env : Env} {X : Stage} {st s1 s' : State} {target r : Option Move} (hs : st.stage = X)
    (h1 : Inv env s1) (hP : PQ s1) (hX : rank s1.stage < rank X) (hsame : ∀ x, InP env st x ↔ InP env s1 x)
    (hpr : promote target s1 = (r, s')) :
    StepOk env X st (match (generalizing := false) r with | some m => .error (some m, s') | none => .ok s') := by
  have hmu : mu env s1 < mu env st := mu_lt_of_rank_lt h1 (hs ▸ hX)
  have hq := hP.hasQuiets
  obtain ⟨q1, q2, _⟩ := h1.quiets hq
  cases target with
  | none =>
    cases hpr
    exact ⟨⟨h1, fun x => (hsame x).symm, Nat.le_of_lt hmu⟩, hX⟩
  | some t =>
    have spec := promote_spec hpr h1.inj
    have T := prom_take spec q2
    obtain ⟨mvs, fq', F⟩ := spec.frame
    have hP' : PQ s' := F ▸ hP
    have inv' : Inv env s' := by
      have ac : afterCaps s1.stage = true := by rcases hP with c | c | c | ⟨c, _⟩ <;> rw [c] <;> rfl
      subst F
      have fq : s1.capturesEnd ≤ fq' ∧ fq' ≤ mvs.size := by
        have : s1.firstQuiet ≤ fq' ∧ fq' ≤ s1.moves.size := T.le
        have : mvs.size = s1.moves.size := spec.size
        omega
      refine h1.to (prom_regions spec q1 q2) rfl rfl ⟨h1.fbOk, ?_⟩ (fun _ => hq) ac
      rcases hP with c | c | c | ⟨c, l⟩ <;> simp only [c]
      · exact ⟨(h1.cur c).2.1, fq⟩
      · exact ⟨(h1.cur c).2.1, fq⟩
      · exact ⟨(h1.cur c).2.1, fq⟩
      · exact ⟨h1.badIdx c, fun a => absurd (a.symm.trans l) nofun, fun _ => fq⟩
    have hmu' : mu env s' = mu env s1 := by
      unfold mu work; rw [spec.stage, spec.cend, spec.idx, spec.size]
    have E := take_ok (st0 := st) (O := lowSeg s1) (O' := lowSeg s') T inv' spec.hash
      (fun x => by rw [hsame, InP_shape hP x, or_comm])
      (fun x => by rw [InP_shape hP' x, or_comm, spec.size])
      (lowSeg_congr spec.stage spec.idx spec.cend spec.fbad (fun k hk => spec.below k (by omega)))
      -- a capture does not sit in the quiet region
      (fun x a b => h1.inj.seg_disjoint q1 (lowSeg_caps a) b)
      (hmu' ▸ hmu)
    cases r with
    | none => exact ⟨E, by rw [spec.stage]; exact hX⟩
    | some m => exact E

/-- the body of `sKiller1` and of `sKiller2`: `Inv` and the "still to yield" set read alike at the three scan
stages -/
theorem killer_step {env : Env} {X Y : Stage} {st s' : State} {target r : Option Move} (h : Inv env st)
    (hs : st.stage = X) (hX : X = .killer1 ∨ X = .killer2) (hY : Y = .killer2 ∨ Y = .counterMove)
    (hXY : rank Y < rank X) (hp : promote target { st with stage := Y } = (r, s')) :
    StepOk env X st (match (generalizing := false) r with | some m => .error (some m, s') | none => .ok s') := by
  have aq : afterQuiets st.stage = true := by rcases hX with e | e <;> rw [hs, e] <;> rfl
  have ac : afterCaps X = true := by rcases hX with rfl | rfl <;> rfl
  have c := h.cur hs ac
  refine prom_step hs ?_ (by rcases hY with e | e <;> simp [PQ, e]) hXY (fun x => ?_) hp
  · refine h.to (SameRegions.refl h.inj).restage hs rfl ?_ (fun _ => Or.inl aq) ac
    -- `Cur` reads alike at the three scan stages
    rcases hX with rfl | rfl <;> rcases hY with rfl | rfl <;> exact c
  · unfold InP; rcases hX with e | e <;> rcases hY with e' | e' <;> simp only [hs, e, e'] <;> exact Iff.rfl

theorem sKiller1_ok (env : Env) (st : State) (h : Inv env st) (hr : rank st.stage ≤ rank .killer1) :
    StepOk env .killer1 st (sKiller1 env st) := by
  unfold sKiller1
  refine block_ok h hr fun hs => ?_
  split
  next r s' hp => exact killer_step h hs (Or.inl rfl) (Or.inl rfl) (by simp [rank]) hp

theorem sKiller2_ok (env : Env) (st : State) (h : Inv env st) (hr : rank st.stage ≤ rank .killer2) :
    StepOk env .killer2 st (sKiller2 env st) := by
  unfold sKiller2
  refine block_ok h hr fun hs => ?_
  split
  next r s' hp => exact killer_step h hs (Or.inr rfl) (Or.inr rfl) (by simp [rank]) hp

theorem sCounter_ok (env : Env) (st : State) (h : Inv env st) (hr : rank st.stage ≤ rank .counterMove) :
    StepOk env .counterMove st (sCounter env st) := by
  unfold sCounter
  refine block_ok h hr fun hs => ?_
  have aq : afterQuiets st.stage = true := by rw [hs]; rfl
  obtain ⟨fbOk, hl, q1, q2⟩ := h.cur hs
  have R := (SameRegions.refl h.inj)
  cases hfb : st.firstBadCapture with
  | none =>
    simp only
    generalize hp : promote env.counter { st with stage := .scoreQuiets, firstBadCapture := none } = p
    obtain ⟨r, s'⟩ := p
    refine prom_step hs ?_ (Or.inr (Or.inr (Or.inl rfl))) (by simp [rank]) (fun x => ?_) hp
    · exact h.to R.restage hs rfl ⟨nofun, hl, q1, q2⟩ (fun _ => Or.inl aq)
    · unfold InP badSeg; simp [hs, hfb, notHash]
  | some fb =>
    simp only
    have hfb' := fbOk fb hfb
    generalize hp : promote env.counter { st with idx := fb, stage := .badCaptures, firstBadCapture := some fb } = p
    obtain ⟨r, s'⟩ := p
    refine prom_step (s1 := { st with idx := fb, stage := .badCaptures, firstBadCapture := some fb }) hs ?_
      (Or.inr (Or.inr (Or.inr ⟨rfl, hl⟩))) (by simp [rank]) (fun x => ?_) hp
    · exact h.to R.restage hs rfl
        ⟨fun k e => fbOk k (hfb.trans e), Nat.le_of_lt hfb', fun c => absurd (c.symm.trans hl) nofun,
          fun _ => ⟨q1, q2⟩⟩
        (fun _ => Or.inl aq)
    · unfold InP badSeg; simp [hs, hfb, hl, notHash]

theorem sBadCaptures_ok (env : Env) (st : State) (h : Inv env st) (hr : rank st.stage ≤ rank .badCaptures) :
    StepOk env .badCaptures st (sBadCaptures st) := by
  unfold sBadCaptures
  refine block_ok h hr fun hs => ?_
  have c2 := (h.caps (by rw [hs]; rfl)).2.1
  obtain ⟨fbOk, g2, lb, hfq⟩ := h.cur hs
  split
  next r st' e =>
  have hnb := nextBest_spec e h.inj g2 c2 (by omega)
  obtain ⟨mvs, scs, i, rfl⟩ := hnb.frame
  have R := nb_regions hnb (Or.inl (Nat.le_refl _))
  have sz : mvs.size = st.moves.size := hnb.size
  have il : i ≤ st.capturesEnd := hnb.idx_le
  have hqseg : ∀ x, st.onlyCaptures = false → (seg mvs st.firstQuiet st.moves.size x ↔
      seg st.moves st.firstQuiet st.moves.size x) := fun x l =>
    seg_rearranged g2 hnb.outside hnb.segs (Or.inr (Or.inr (hfq l).1)) x
  cases r with
  | none =>
    have hnone := nb_none hnb
    simp only
    by_cases hl : st.onlyCaptures = true
    · rw [if_pos hl]
      refine StepOk.fall hs ?_ (fun x => ?_) (by simp [rank])
      · exact h.to R.restage hs rfl ⟨fbOk, trivial⟩ nofun
      · unfold InP; simp only [hs, false_iff, hl, Bool.true_eq_false, false_and, or_false]
        exact fun ⟨a, b⟩ => hnone x b a
    · rw [if_neg hl]
      have hl0 : st.onlyCaptures = false := by simpa using hl
      refine StepOk.fall hs ?_ (fun x => ?_) (by simp [rank])
      · exact h.to R.restage hs rfl ⟨fbOk, hl0, sz ▸ hfq hl0⟩ (fun _ => Or.inr ⟨hs, hl0⟩)
      · unfold InP; simp only [hs, sz, hqseg x hl0]
        exact ⟨fun ⟨a, b⟩ => ⟨Or.inr ⟨hl0, a⟩, b⟩, fun ⟨a, b⟩ => ⟨(a.resolve_left (hnone x b)).2, b⟩⟩
  | some ms =>
    obtain ⟨mv, score⟩ := ms
    refine take_ok (st0 := st) (O := fun x => st.onlyCaptures = false ∧ seg st.moves st.firstQuiet st.moves.size x)
      (O' := fun x => st.onlyCaptures = false ∧ seg mvs st.firstQuiet mvs.size x)
      (nb_take hnb) ?_ rfl
      (fun x => by unfold InP; simp only [hs])
      (fun x => by unfold InP; simp only [hs])
      (fun x => by rw [sz]; exact and_congr_right fun l => hqseg x l)
      -- a capture does not sit in the quiet region
      (fun x ⟨l, b⟩ a => h.inj.seg_disjoint (hfq l).1 a b) ?_
    · exact h.to R hs hs ⟨fbOk, il, fun l => sz ▸ lb l, fun l => sz ▸ hfq l⟩ id
    · unfold mu work; simp only [hs]
      have : st.idx < i := hnb.result.1
      omega

theorem sScoreQuiets_ok (env : Env) (st : State) (h : Inv env st) (hr : rank st.stage ≤ rank .scoreQuiets) :
    StepOk env .scoreQuiets st (sScoreQuiets env st) := by
  unfold sScoreQuiets
  refine block_ok h hr fun hs => ?_
  have aq : afterQuiets st.stage = true := by rw [hs]; rfl
  obtain ⟨fbOk, hl, q1, q2⟩ := h.cur hs
  refine StepOk.fall hs ?_ (fun x => ?_) (by simp [rank])
  · exact h.to ((SameRegions.refl h.inj).restage (hsc := setScores_size _ _ _ _ _)) hs rfl
      ⟨fbOk, hl, q1, Nat.le_refl _, q2⟩ (fun _ => Or.inl aq)
  · unfold InP; simp only [hs]; exact Iff.rfl

theorem sQuiets_ok (env : Env) (st : State) (h : Inv env st) (hr : rank st.stage ≤ rank .quiets) :
    StepOk env .quiets st (sQuiets st) := by
  unfold sQuiets
  refine block_ok h hr fun hs => ?_
  have aq : afterQuiets st.stage = true := by rw [hs]; rfl
  obtain ⟨fbOk, hl, q1, g1, g2⟩ := h.cur hs
  split
  next r st' e =>
  have hnb := nextBest_spec e h.inj g2 (Nat.le_refl _) (by omega)
  obtain ⟨mvs, scs, i, rfl⟩ := hnb.frame
  have R := nb_regions hnb (Or.inr ⟨by omega, Nat.le_refl _⟩)
  have sz : mvs.size = st.moves.size := hnb.size
  have il : i ≤ st.moves.size := hnb.idx_le
  cases r with
  | none =>
    refine StepOk.fall hs ?_ (fun x => ?_) (by simp [rank])
    · exact h.to R.restage hs rfl ⟨fbOk, trivial⟩ nofun
    · unfold InP; simp only [hs, false_iff]
      exact fun ⟨a, b⟩ => nb_none hnb x b a
  | some ms =>
    obtain ⟨mv, score⟩ := ms
    refine take_ok (st0 := st) (O := fun _ => False) (O' := fun _ => False) (nb_take hnb) ?_ rfl
      (fun x => by unfold InP; simp only [hs, or_false])
      (fun x => by unfold InP; simp only [hs, sz, or_false])
      (fun _ => Iff.rfl) (fun _ a => a.elim) ?_
    · exact h.to R hs hs ⟨fbOk, hl, q1, Nat.le_trans g1 hnb.idx_ge, sz ▸ il⟩ (fun _ => Or.inl aq)
    · unfold mu work; simp only [hs, sz]
      have : st.idx < i := hnb.result.1
      omega

theorem next_ok (env : Env) (hE : EnvOk env) (st : State) (h : Inv env st) :
    match next env st with
    | (some m, st') => Emit env st m st'
    | (none, st') => Silent env st st' ∧ st'.stage = .done := by
  have key : ∀ r : Step, StepOk env .quiets st r →
      match (match r with | .error res => res | .ok st => (none, st) : Option Move × State) with
      | (some m, st') => Emit env st m st'
      | (none, st') => Silent env st st' ∧ st'.stage = .done := by
    intro r hr
    cases r with
    | ok s => exact ⟨hr.1, rank_inj _ _ (Nat.lt_one_iff.1 hr.2)⟩
    | error e =>
      obtain ⟨o, s⟩ := e
      cases o with
      | none => exact hr.elim
      | some m => exact hr
  -- `next` is this match on the chain of the ten blocks
  refine key _ ?_
  refine (sBest_ok env st h (rank_le_ten _)).bind ?_
  refine fun s i r => (sGenCaptures_ok env hE s i (Nat.le_of_lt_succ r)).bind ?_
  refine fun s i r => (sGoodCaptures_ok env hE s i (Nat.le_of_lt_succ r)).bind ?_
  refine fun s i r => (sGenQuiets_ok env hE s i (Nat.le_of_lt_succ r)).bind ?_
  refine fun s i r => (sKiller1_ok env s i (Nat.le_of_lt_succ r)).bind ?_
  refine fun s i r => (sKiller2_ok env s i (Nat.le_of_lt_succ r)).bind ?_
  refine fun s i r => (sCounter_ok env s i (Nat.le_of_lt_succ r)).bind ?_
  refine fun s i r => (sBadCaptures_ok env s i (Nat.le_of_lt_succ r)).bind ?_
  refine fun s i r => (sScoreQuiets_ok env s i (Nat.le_of_lt_succ r)).bind ?_
  exact fun s i r => sQuiets_ok env s i (Nat.le_of_lt_succ r)

theorem drain_spec (env : Env) (hE : EnvOk env) : ∀ (fuel : Nat) (st : State), Inv env st → mu env st < fuel →
    (drain env fuel st).Nodup ∧ ∀ x, x ∈ drain env fuel st ↔ InP env st x := by
  intro fuel
  induction fuel with
  | zero => intro st _ h; omega
  | succ n ih =>
    intro st hinv hmu
    have hn := next_ok env hE st hinv
    unfold drain
    generalize next env st = p at hn
    obtain ⟨o, st'⟩ := p
    cases o with
    | none =>
      simp only at hn ⊢
      refine ⟨List.nodup_nil, fun x => ?_⟩
      rw [← hn.1.same x]
      unfold InP; rw [hn.2]
      simp
    | some m =>
      simp only at hn ⊢
      obtain ⟨d, mem⟩ := ih st' hn.inv (by have := hn.mu_lt; omega)
      refine ⟨List.nodup_cons.2 ⟨?_, d⟩, fun x => ?_⟩
      · rw [mem m, hn.rest m]
        exact fun c => c.2 rfl
      · rw [List.mem_cons, mem x, hn.rest x]
        exact ⟨fun e => e.elim (fun e => e ▸ hn.mem) And.left,
          fun hx => (Decidable.em (x = m)).imp_right fun c => ⟨hx, c⟩⟩

theorem drain_perm {env : Env} (hE : EnvOk env) {st : State} (hi : Inv env st) {fuel : Nat} (hf : mu env st < fuel)
    {l : List Move} (hl : l.Nodup) (hm : ∀ x, InP env st x ↔ x ∈ l) : (drain env fuel st).Perm l := by
  obtain ⟨d, mem⟩ := drain_spec env hE fuel st hi hf
  exact (List.perm_ext_iff_of_nodup d hl).2 fun x => (mem x).trans (hm x)

end Picker
end Tcheran
