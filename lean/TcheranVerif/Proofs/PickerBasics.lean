import TcheranVerif.Model.Picker
/-!
# Array facts for the move picker

Every later statement reads the move array through `seg a lo hi x` (the move `x` sits at a position in
`[lo, hi)`) and `Inj` (no move twice; it is `Nodup` of the underlying list, so that swaps and appends are
covered by core).
-/

namespace Tcheran
namespace Picker

theorem swapAt_size {α} (a : Array α) (i j : Nat) : (swapAt a i j).size = a.size := by
  unfold swapAt
  split
  · exact Array.size_swap
  · rfl

theorem swapAt_get {α} {a : Array α} {i j : Nat} (hi : i < a.size) (hj : j < a.size) (k : Nat) :
    (swapAt a i j)[k]? = if k = i then a[j]? else if k = j then a[i]? else a[k]? := by
  unfold swapAt
  rw [dif_pos ⟨hi, hj⟩, Array.getElem?_swap, Array.getElem?_eq_getElem hi, Array.getElem?_eq_getElem hj]
  -- core tests `j = k` before `i = k`; the order matters only when `i = j`
  by_cases h1 : k = i <;> by_cases h2 : k = j <;> subst_vars <;> simp_all [eq_comm]

theorem swapAt_outside {α} {a : Array α} {i j k : Nat} (h1 : k ≠ i) (h2 : k ≠ j) :
    (swapAt a i j)[k]? = a[k]? := by
  by_cases h : i < a.size ∧ j < a.size
  · rw [swapAt_get h.1 h.2, if_neg h1, if_neg h2]
  · rw [swapAt, dif_neg h]

theorem swapAt_swapAt {α} (a : Array α) (i j : Nat) : swapAt (swapAt a i j) i j = a := by
  by_cases h : i < a.size ∧ j < a.size
  · simp [swapAt, h, Array.swap_swap]
  · simp [swapAt, h]

def Inj (a : Array Move) : Prop := ∀ i j, i < a.size → j < a.size → a[i]? = a[j]? → i = j

theorem inj_iff_nodup (a : Array Move) : Inj a ↔ a.toList.Nodup := by
  constructor
  · intro h
    rw [List.nodup_iff_pairwise_ne, List.pairwise_iff_getElem]
    simp only [Array.length_toList, Array.getElem_toList]
    intro i j hi hj hij e
    have := h i j hi hj (by rw [Array.getElem?_eq_getElem hi, Array.getElem?_eq_getElem hj, e])
    omega
  · intro h i j hi _ e
    rw [← Array.getElem?_toList, ← Array.getElem?_toList] at e
    exact (List.getElem?_inj (by simpa using hi) h).1 e

theorem inj_swapAt {a : Array Move} (h : Inj a) (i j : Nat) : Inj (swapAt a i j) := by
  unfold swapAt
  split
  · next hij =>
    rw [inj_iff_nodup] at h ⊢
    exact (Array.perm_iff_toList_perm.1 (Array.swap_perm hij.1 hij.2)).nodup_iff.2 h
  · exact h

def seg (a : Array Move) (lo hi : Nat) (x : Move) : Prop := ∃ k, lo ≤ k ∧ k < hi ∧ a[k]? = some x

theorem seg_empty (a : Array Move) (lo : Nat) (x : Move) : ¬ seg a lo lo x := by
  rintro ⟨k, h1, h2, _⟩; omega

theorem seg_mono {a : Array Move} {lo lo' hi hi' : Nat} {x : Move} (h1 : lo' ≤ lo) (h2 : hi ≤ hi')
    (h : seg a lo hi x) : seg a lo' hi' x := by
  obtain ⟨k, k1, k2, e⟩ := h
  exact ⟨k, by omega, by omega, e⟩

theorem seg_congr {a b : Array Move} {lo hi : Nat} (h : ∀ k, lo ≤ k → k < hi → a[k]? = b[k]?) (x : Move) :
    seg a lo hi x ↔ seg b lo hi x :=
  exists_congr fun k => and_congr_right fun k1 => and_congr_right fun k2 => by rw [h k k1 k2]

theorem seg_append {a : Array Move} (lo mid hi : Nat) {x : Move} (h1 : lo ≤ mid) (h2 : mid ≤ hi) :
    seg a lo hi x ↔ (seg a lo mid x ∨ seg a mid hi x) := by
  constructor
  · rintro ⟨k, k1, k2, e⟩
    by_cases c : k < mid
    · exact Or.inl ⟨k, k1, c, e⟩
    · exact Or.inr ⟨k, by omega, k2, e⟩
  · rintro (h | h)
    · exact seg_mono (Nat.le_refl _) h2 h
    · exact seg_mono h1 (Nat.le_refl _) h

theorem seg_split {a : Array Move} {lo hi : Nat} {x : Move} (h : lo < hi) :
    seg a lo hi x ↔ (a[lo]? = some x ∨ seg a (lo + 1) hi x) := by
  rw [seg_append lo (lo + 1) hi (by omega) h]
  refine or_congr_left ⟨?_, fun e => ⟨lo, Nat.le_refl _, by omega, e⟩⟩
  rintro ⟨k, k1, k2, e⟩
  rwa [show lo = k by omega]

theorem seg_rearranged {a b : Array Move} {lo hi : Nat} (hle : lo ≤ hi)
    (hout : ∀ k, k < lo ∨ hi ≤ k → b[k]? = a[k]?) (hin : ∀ x, seg b lo hi x ↔ seg a lo hi x)
    {l u : Nat} (hlu : (l ≤ lo ∧ hi ≤ u) ∨ u ≤ lo ∨ hi ≤ l) (x : Move) : seg b l u x ↔ seg a l u x := by
  rcases hlu with ⟨h1, h2⟩ | h1
  · have split : ∀ c : Array Move, seg c l u x ↔ seg c l lo x ∨ seg c lo hi x ∨ seg c hi u x :=
      fun c => by rw [seg_append l lo u h1 (by omega), seg_append lo hi u hle h2]
    rw [split, split, hin x, seg_congr (fun k _ k2 => hout k (Or.inl k2)) x,
      seg_congr (fun k k1 _ => hout k (Or.inr k1)) x]
  · exact seg_congr (fun k k1 k2 => hout k (by omega)) x

theorem Inj.seg_disjoint {a : Array Move} (h : Inj a) {lo hi lo' hi' : Nat} {x : Move} (hd : hi ≤ lo')
    (h1 : seg a lo hi x) (h2 : seg a lo' hi' x) : False := by
  obtain ⟨i, _, i2, ei⟩ := h1
  obtain ⟨j, j1, _, ej⟩ := h2
  have := h i j (Array.getElem?_eq_some_iff.1 ei).1 (Array.getElem?_eq_some_iff.1 ej).1 (ei.trans ej.symm)
  omega

theorem seg_swapAt_inside {a : Array Move} {lo hi i j : Nat} (hhi : hi ≤ a.size)
    (h1 : lo ≤ i) (h2 : i < hi) (h3 : lo ≤ j) (h4 : j < hi) (x : Move) :
    seg (swapAt a i j) lo hi x ↔ seg a lo hi x := by
  have fwd : ∀ b : Array Move, hi ≤ b.size → seg (swapAt b i j) lo hi x → seg b lo hi x := by
    rintro b hb ⟨k, k1, k2, e⟩
    rw [swapAt_get (by omega) (by omega)] at e
    split at e
    · exact ⟨j, h3, h4, e⟩
    · split at e
      · exact ⟨i, h1, h2, e⟩
      · exact ⟨k, k1, k2, e⟩
  -- the other direction is the same fact about the swapped array, since swapping twice restores it
  refine ⟨fwd a hhi, fun h => fwd _ (by rw [swapAt_size]; exact hhi) ?_⟩
  rw [swapAt_swapAt]; exact h

theorem seg_toArray (l : List Move) (x : Move) : seg l.toArray 0 l.length x ↔ x ∈ l := by
  constructor
  · rintro ⟨k, _, k2, e⟩
    rw [List.getElem?_toArray] at e
    exact List.mem_of_getElem? e
  · intro h
    obtain ⟨k, hk, e⟩ := List.getElem_of_mem h
    exact ⟨k, Nat.zero_le _, hk, by rw [List.getElem?_toArray, List.getElem?_eq_getElem hk, e]⟩

theorem seg_append_left {a : Array Move} (b : Array Move) {lo hi : Nat} (h : hi ≤ a.size) (x : Move) :
    seg (a ++ b) lo hi x ↔ seg a lo hi x :=
  seg_congr (fun k _ k2 => Array.getElem?_append_left (by omega)) x

theorem seg_append_right (a : Array Move) (l : List Move) (x : Move) :
    seg (a ++ l.toArray) a.size (a.size + l.length) x ↔ x ∈ l := by
  rw [← seg_toArray l x]
  constructor
  · rintro ⟨k, k1, k2, e⟩
    rw [Array.getElem?_append_right k1] at e
    exact ⟨k - a.size, Nat.zero_le _, by omega, e⟩
  · rintro ⟨k, _, k2, e⟩
    exact ⟨a.size + k, by omega, by omega, by
      rw [Array.getElem?_append_right (by omega), show a.size + k - a.size = k by omega]; exact e⟩

theorem argmax_bounds (scores : Array Int) (lo hi : Nat) (h : lo < hi) :
    lo ≤ argmax scores lo hi ∧ argmax scores lo hi < hi := by
  unfold argmax
  refine List.foldlRecOn (motive := fun b => lo ≤ b ∧ b < hi) _ _ ⟨Nat.le_refl _, h⟩ fun b hb i hi' => ?_
  split
  · have := List.mem_range'_1.1 hi'; omega
  · exact hb

theorem setScores_size (scores : Array Int) (moves : Array Move) (f : Move → Int) (lo hi : Nat) :
    (setScores scores moves f lo hi).size = scores.size := by
  unfold setScores
  refine List.foldlRecOn (motive := fun sc => Array.size sc = scores.size) _ _ rfl fun sc h i _ => ?_
  split
  · split
    · rw [Array.size_setIfInBounds]; exact h
    · exact h
  · exact h

theorem pushMoves_ssize {st : State} (h : st.scores.size = st.moves.size) (ms : List Move) :
    (pushMoves st ms).scores.size = (pushMoves st ms).moves.size := by
  simp [pushMoves, h]

/-- what one call of `next_best_move(limit)` does -/
structure NBSpec (limit : Nat) (st : State) (r : Option (Move × Int)) (st' : State) : Prop where
  inj : Inj st'.moves
  size : st'.moves.size = st.moves.size
  ssize : st'.scores.size = st.scores.size
  idx_ge : st.idx ≤ st'.idx
  idx_le : st'.idx ≤ limit
  hash : st'.hash = st.hash
  loud : st'.onlyCaptures = st.onlyCaptures
  stage : st'.stage = st.stage
  cend : st'.capturesEnd = st.capturesEnd
  fbad : st'.firstBadCapture = st.firstBadCapture
  fquiet : st'.firstQuiet = st.firstQuiet
  outside : ∀ k, (k < st.idx ∨ limit ≤ k) → st'.moves[k]? = st.moves[k]?
  segs : ∀ x, seg st'.moves st.idx limit x ↔ seg st.moves st.idx limit x
  -- the slots `[st.idx, st'.idx - 1)` before the move returned hold the copies of the hash move that were skipped
  result : match r with
    | some (m, _) => st.idx < st'.idx ∧ st'.moves[st'.idx - 1]? = some m ∧ some m ≠ st.hash ∧
                      ∀ k, st.idx ≤ k → k < st'.idx - 1 → st'.moves[k]? = st.hash
    | none => st'.idx = limit ∧ ∀ k, st.idx ≤ k → k < limit → st'.moves[k]? = st.hash

/-- the frame of `NBSpec` in one equation (`PromSpec.frame` likewise): after `subst` the fields the call leaves alone
are those of `st` by reduction, and no step has to rewrite them -/
theorem NBSpec.frame {limit : Nat} {st st' : State} {r} (h : NBSpec limit st r st') :
    ∃ moves scores idx, st' = { st with moves, scores, idx } := by
  refine ⟨st'.moves, st'.scores, st'.idx, ?_⟩
  cases st'
  simp only [State.mk.injEq, true_and]
  exact ⟨h.hash, h.loud, h.stage, h.cend, h.fbad, h.fquiet⟩

theorem nextBest_spec {limit fuel : Nat} {st : State} {r : Option (Move × Int)} {st' : State}
    (e : nextBest limit fuel st = (r, st')) (hinj : Inj st.moves) (hle : st.idx ≤ limit)
    (hsz : limit ≤ st.moves.size) (hf : limit - st.idx < fuel) : NBSpec limit st r st' := by
  induction fuel generalizing st with
  | zero => omega
  | succ n ih =>
    unfold nextBest at e
    by_cases heq : st.idx = limit
    · rw [if_pos heq] at e
      cases e
      exact ⟨hinj, rfl, rfl, Nat.le_refl _, hle, rfl, rfl, rfl, rfl, rfl, rfl, fun _ _ => rfl,
        fun _ => Iff.rfl, heq, fun k h1 h2 => by omega⟩
    · rw [if_neg heq] at e
      have hlt : st.idx < limit := by omega
      have hb := argmax_bounds st.scores st.idx limit hlt
      have hbi : argmax st.scores st.idx limit < st.moves.size := by omega
      have hidx : st.idx < st.moves.size := by omega
      have hget := Array.getElem?_eq_getElem hbi
      simp only [hget] at e
      -- the best move `bm` of `[idx, limit)` is swapped to `idx`
      let bi := argmax st.scores st.idx limit
      let bm := st.moves[bi]'hbi
      let st1 : State := { st with moves := swapAt st.moves st.idx bi, scores := swapAt st.scores st.idx bi,
                                   idx := st.idx + 1 }
      have inj1 : Inj st1.moves := inj_swapAt hinj _ _
      have sz1 : st1.moves.size = st.moves.size := swapAt_size _ _ _
      have ss1 : st1.scores.size = st.scores.size := swapAt_size _ _ _
      have at_idx : st1.moves[st.idx]? = some bm := (swapAt_get hidx hbi st.idx).trans ((if_pos rfl).trans hget)
      have seg1 : ∀ x, seg st1.moves st.idx limit x ↔ seg st.moves st.idx limit x :=
        seg_swapAt_inside hsz (Nat.le_refl _) hlt hb.1 hb.2
      have out1 : ∀ k, (k < st.idx ∨ limit ≤ k) → st1.moves[k]? = st.moves[k]? := fun k hk =>
        swapAt_outside (by omega) (by omega)
      by_cases hh : some bm = st.hash
      · -- it is the hash move: skipped, and it stays at `idx` while the search goes on behind it
        rw [if_pos hh] at e
        have hrec := ih e inj1 (Nat.succ_le_of_lt hlt) (sz1 ▸ hsz) (by show limit - (st.idx + 1) < n; omega)
        have hkeep : st'.moves[st.idx]? = st.hash := by
          rw [hrec.outside st.idx (Or.inl (Nat.lt_succ_self _)), at_idx, hh]
        have hpre : ∀ b, (∀ k, st.idx + 1 ≤ k → k < b → st'.moves[k]? = st.hash) →
            ∀ k, st.idx ≤ k → k < b → st'.moves[k]? = st.hash := fun b hb k k1 k2 => by
          by_cases c : k = st.idx
          · rw [c]; exact hkeep
          · exact hb k (by omega) k2
        refine ⟨hrec.inj, hrec.size.trans sz1, hrec.ssize.trans ss1, Nat.le_trans (Nat.le_succ _) hrec.idx_ge,
          hrec.idx_le, hrec.hash, hrec.loud, hrec.stage, hrec.cend, hrec.fbad, hrec.fquiet, fun k hk => ?_,
          fun x => ?_, ?_⟩
        · rw [hrec.outside k (hk.imp_left Nat.lt_succ_of_lt), out1 k hk]
        · exact (seg_rearranged (Nat.succ_le_of_lt hlt) hrec.outside hrec.segs
            (Or.inl ⟨Nat.le_succ _, Nat.le_refl _⟩) x).trans (seg1 x)
        · have hr := hrec.result
          cases r with
          | none => exact ⟨hr.1, hpre _ hr.2⟩
          | some ms => exact ⟨Nat.lt_of_succ_lt hr.1, hr.2.1, hr.2.2.1, hpre _ hr.2.2.2⟩
      · rw [if_neg hh] at e
        cases e
        exact ⟨inj1, sz1, ss1, Nat.le_succ _, hlt, rfl, rfl, rfl, rfl, rfl, rfl, out1, seg1,
          Nat.lt_succ_self _, at_idx, hh, fun k k1 k2 => absurd k2 (Nat.not_lt.2 k1)⟩

theorem nextBest_stage (limit : Nat) : ∀ (fuel : Nat) (st : State), (nextBest limit fuel st).2.stage = st.stage := by
  intro fuel st
  -- only the skip of a hash-move copy recurses
  fun_induction nextBest limit fuel st with
  | case4 _ _ _ _ _ _ _ _ ih => exact ih
  | _ => rfl

theorem promoteLoop_absent (t : Move) (hi fuel i : Nat) (st : State)
    (h : ∀ k, i ≤ k → k < hi → st.moves[k]? ≠ some t) : promoteLoop t hi fuel i st = (none, st) := by
  fun_induction promoteLoop t hi fuel i st with
  | case1 | case2 => rfl
  | case3 _ i _ c hm | case4 _ i _ c hm => exact absurd hm (h i (Nat.le_refl _) (by omega))
  | case5 _ _ _ _ _ ih => exact ih fun k k1 k2 => h k (by omega) k2

/-- what the scan of a killer / counter-move stage does -/
structure PromSpec (t : Move) (st : State) (r : Option Move) (st' : State) : Prop where
  inj : Inj st'.moves
  size : st'.moves.size = st.moves.size
  scores : st'.scores = st.scores
  hash : st'.hash = st.hash
  loud : st'.onlyCaptures = st.onlyCaptures
  stage : st'.stage = st.stage
  cend : st'.capturesEnd = st.capturesEnd
  fbad : st'.firstBadCapture = st.firstBadCapture
  idx : st'.idx = st.idx
  below : ∀ k, k < st.firstQuiet → st'.moves[k]? = st.moves[k]?
  segs : ∀ x, seg st'.moves st.firstQuiet st.moves.size x ↔ seg st.moves st.firstQuiet st.moves.size x
  res : match r with
    | some m => m = t ∧ some t ≠ st.hash ∧ st'.firstQuiet = st.firstQuiet + 1 ∧ st'.moves[st.firstQuiet]? = some t
    | none => st'.firstQuiet = st.firstQuiet ∨
        (some t = st.hash ∧ st'.firstQuiet = st.firstQuiet + 1 ∧ st'.moves[st.firstQuiet]? = some t)

theorem PromSpec.frame {t : Move} {st st' : State} {r} (h : PromSpec t st r st') :
    ∃ moves firstQuiet, st' = { st with moves, firstQuiet } := by
  refine ⟨st'.moves, st'.firstQuiet, ?_⟩
  cases st'
  simp only [State.mk.injEq, true_and, and_true]
  exact ⟨h.scores, h.hash, h.loud, h.stage, h.idx, h.cend, h.fbad⟩

theorem promoteLoop_spec {t : Move} {fuel i : Nat} {st : State} {r : Option Move} {st' : State}
    (e : promoteLoop t st.moves.size fuel i st = (r, st')) (hinj : Inj st.moves) (hfq : st.firstQuiet ≤ i)
    (hf : st.moves.size - i < fuel) : PromSpec t st r st' := by
  induction fuel generalizing i with
  | zero => omega
  | succ n ih =>
    unfold promoteLoop at e
    by_cases c : i ≥ st.moves.size
    · rw [if_pos c] at e
      cases e
      exact ⟨hinj, rfl, rfl, rfl, rfl, rfl, rfl, rfl, rfl, fun _ _ => rfl, fun _ => Iff.rfl, Or.inl rfl⟩
    · rw [if_neg c] at e
      have hilt : i < st.moves.size := by omega
      have hfqlt : st.firstQuiet < st.moves.size := by omega
      by_cases hm : st.moves[i]? = some t
      · -- found at `i`: swapped to the front of the quiet segment
        rw [if_pos hm] at e
        simp only at e
        let st1 : State := { st with moves := swapAt st.moves st.firstQuiet i, firstQuiet := st.firstQuiet + 1 }
        have inj1 : Inj st1.moves := inj_swapAt hinj _ _
        have sz1 : st1.moves.size = st.moves.size := swapAt_size _ _ _
        have at_fq : st1.moves[st.firstQuiet]? = some t :=
          (swapAt_get hfqlt hilt st.firstQuiet).trans ((if_pos rfl).trans hm)
        have seg1 : ∀ x, seg st1.moves st.firstQuiet st.moves.size x ↔ seg st.moves st.firstQuiet st.moves.size x :=
          seg_swapAt_inside (Nat.le_refl _) (Nat.le_refl _) hfqlt hfq hilt
        have below1 : ∀ k, k < st.firstQuiet → st1.moves[k]? = st.moves[k]? := fun k hk =>
          swapAt_outside (by omega) (by omega)
        by_cases hh : some t ≠ st.hash
        · rw [if_pos hh] at e
          cases e
          exact ⟨inj1, sz1, rfl, rfl, rfl, rfl, rfl, rfl, rfl, below1, seg1, rfl, hh, rfl, at_fq⟩
        · -- it is the hash move: the scan goes on, but there is no second copy behind `i`
          rw [if_neg hh, promoteLoop_absent] at e
          · cases e
            exact ⟨inj1, sz1, rfl, rfl, rfl, rfl, rfl, rfl, rfl, below1, seg1,
              Or.inr ⟨Decidable.not_not.1 hh, rfl, at_fq⟩⟩
          · intro k k1 k2 hk
            rw [show st1.moves[k]? = st.moves[k]? from swapAt_outside (by omega) (by omega)] at hk
            have := hinj k i k2 hilt (hk.trans hm.symm)
            omega
      · rw [if_neg hm] at e
        exact ih e (by omega) (by omega)

theorem promote_spec {t : Move} {st : State} {r : Option Move} {st' : State} (e : promote (some t) st = (r, st'))
    (hinj : Inj st.moves) : PromSpec t st r st' :=
  promoteLoop_spec e hinj (Nat.le_refl _) (by omega)

end Picker
end Tcheran
