import TcheranVerif.Proofs.AttackSpec
import TcheranVerif.Model.SeeSeq
/-!
# A king that captures legally cannot be retaken (C20, hypothesis `hking` of `see_swaplist`)

The generator admits a king capture `king → d` only when `attackersOf (board without the king) player d` is empty
(`Gen.kingCaptures`).  `king_capture_safe` turns that into the statement the exchange evaluator needs: with the
occupancy `see` uses after the capture, no man of the opponent is among the attackers of `d`.
-/

namespace Tcheran
open Board

theorem mem_occFor_other (b : Board) (hc : Consistent b) (p : Player) (q : Sq)
    (h : mem (b.occFor p.other) q = true) : mem (b.occFor p) q = false := by
  cases hp : mem (b.occFor p) q with
  | false => rfl
  | true => exact absurd rfl (((mem_occFor b hc p q).1 hp).ne_other ((mem_occFor b hc p.other q).1 h))

theorem allAttackersOf_enemy (b : Board) (hc : Consistent b) (p : Player) (s : Sq) :
    allAttackersOf b s b.occupancy &&& b.occFor p.other = attackersOf b p s := by
  apply ext_mem
  intro q
  unfold allAttackersOf attackersOf
  simp only [mem_or, mem_and, pawnsOf, knightsOf, kingOf, diagSliders, orthSliders, bishopsOf, rooksOf, queensOf,
    allDiagSliders, allOrthSliders]
  cases ho : mem (b.occFor p.other) q with
  | false => simp
  | true =>
    have := mem_occFor_other b hc p q ho
    cases p <;> simp_all [Player.other, occFor]

theorem occ_after_king (b : Board) (hc : Consistent b) (king d : Sq) (pk pd : Piece)
    (hk : b.pieceAt king = some pk) (hd : b.pieceAt d = some pd) (hne : d ≠ king) :
    (b.occupancy ^^^ bb king) ||| bb d = (b.removeAt king).occupancy := by
  apply ext_mem
  intro t
  have occ (b' : Board) (h : Consistent b') : mem b'.occupancy t = (b'.pieceAt t).isSome := mem_occupancy b' h t
  rw [mem_or, mem_xor, mem_bb, mem_bb, occ b hc, occ _ (consistent_removeAt b king hc), pieceAt_removeAt]
  by_cases h1 : t = king
  · subst h1
    have : ¬ t = d := fun e => hne e.symm
    simp [hk, this]
  · by_cases h2 : t = d
    · subst h2; simp [hd, h1]
    · simp [h1, h2]

theorem mem_allAttackersOf_removeAt (b : Board) (hc : Consistent b) (s q : Sq) (hq : q ≠ s) (d : Sq) (occ : BB) :
    mem (allAttackersOf (b.removeAt s) d occ) q = mem (allAttackersOf b d occ) q := by
  have hK := mem_byKind_removeAt b hc s q hq
  have hO := mem_occFor_removeAt b hc s q hq
  have hKp := hK .pawn; have hKn := hK .knight; have hKb := hK .bishop
  have hKr := hK .rook; have hKq := hK .queen; have hKk := hK .king
  simp only [byKind] at hKp hKn hKb hKr hKq hKk
  unfold allAttackersOf
  simp only [mem_or, mem_and, pawnsOf, allDiagSliders, allOrthSliders, hKp, hKn, hKb, hKr, hKq, hKk, hO]

theorem king_capture_safe (b : Board) (hc : Consistent b) (p : Player) (king d : Sq) (pd : Piece)
    (hk : b.pieceAt king = some ⟨.king, p⟩) (hd : b.pieceAt d = some pd) (hpd : pd.player = p.other)
    (hsafe : attackersOf (b.removeAt king) p d = 0#64) :
    (allAttackersOf b d ((b.occupancy ^^^ bb king) ||| bb d) &&& ((b.occupancy ^^^ bb king) ||| bb d)) &&&
      b.occFor p.other = 0#64 := by
  have hne : d ≠ king := Ne.symm (Own.ne_other (b := b.squares) ⟨_, hk, rfl⟩ ⟨_, hd, hpd⟩)
  have hopp : (b.removeAt king).occFor p.other = b.occFor p.other := by
    rw [occFor_removeAt b king _ hk, if_neg (by cases p <;> decide)]
  -- the occupancy is that of the board with the king lifted; it is enough that no man of the opponent attacks
  rw [occ_after_king b hc king d _ pd hk hd hne]
  suffices h : allAttackersOf b d (b.removeAt king).occupancy &&& b.occFor p.other = 0#64 by
    rw [BitVec.and_assoc, BitVec.and_comm (b.removeAt king).occupancy, ← BitVec.and_assoc, h, BitVec.zero_and]
  rw [← hsafe, ← allAttackersOf_enemy _ (consistent_removeAt b king hc) p d, hopp]
  apply ext_mem
  intro q
  rw [mem_and, mem_and]
  cases ho : mem (b.occFor p.other) q with
  | false => rw [Bool.and_false, Bool.and_false]
  | true =>
    -- `q` holds a man of the opponent, so it is not the king's square
    have hqk : q ≠ king := Ne.symm (Own.ne_other ⟨_, hk, rfl⟩ ((mem_occFor b hc p.other q).1 ho))
    rw [mem_allAttackersOf_removeAt b hc king q hqk]

end Tcheran
