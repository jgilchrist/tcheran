import TcheranVerif.Proofs.Attacks
/-!
# The rank flip on squares and bitboards (`Square::relative_for`, `Bitboard::flip_vertically` = `u64::swap_bytes`)

The flip and the shifts distribute over `|||` and every board is the union of its one-square boards
(`setOf_toList`), so two of them agree once they agree on one-square boards (`linear_ext`). There a shift is a step
of the square (`inDir_bb`), the flip of a board the flip of the square (`flipV_bb`, decided by the kernel over the
64 squares), and a step commutes with the flip in coordinates (`step_flip`).
-/

namespace Tcheran
open Geometry

theorem flip_flip (s : Sq) : s.flip.flip = s :=
  Fin.ext (by simp [Sq.flip, Nat.xor_assoc])

theorem flip_inj {a b : Sq} (h : a.flip = b.flip) : a = b := by
  have := congrArg Sq.flip h
  rwa [flip_flip, flip_flip] at this

theorem flip_eq_iff (a b : Sq) : a.flip = b ↔ a = b.flip := by
  constructor
  · intro h; rw [← h, flip_flip]
  · intro h; rw [h, flip_flip]

theorem mem_map_flip (l : List Sq) (t : Sq) : t ∈ l.map Sq.flip ↔ t.flip ∈ l := by
  rw [List.mem_map]
  constructor
  · rintro ⟨u, hu, rfl⟩; rwa [flip_flip]
  · exact fun h => ⟨t.flip, h, flip_flip t⟩

theorem flip_coords : ∀ s : Sq, s.flip.file = s.file ∧ s.flip.rank = 7 - s.rank := by decide

theorem mk?_flip (f r : Int) : Sq.mk? f (7 - r) = (Sq.mk? f r).map Sq.flip := by
  cases h : Sq.mk? f r with
  | none =>
    rw [Sq.mk?_eq_none] at h
    rw [Option.map_none, Sq.mk?_eq_none]
    omega
  | some t =>
    obtain ⟨hf, hr⟩ := flip_coords t
    have := t.rank_lt
    rw [Sq.mk?_eq_some] at h
    rw [Option.map_some, Sq.mk?_eq_some, hf, hr]
    omega

def Dir.flipV : Dir → Dir
  | .N => .S | .S => .N | .NE => .SE | .SE => .NE | .NW => .SW | .SW => .NW | .E => .E | .W => .W

theorem Dir.flipV_flipV (d : Dir) : d.flipV.flipV = d := by cases d <;> rfl

theorem Dir.flipV_delta (d : Dir) : d.flipV.delta = (d.delta.1, -d.delta.2) := by cases d <;> rfl

theorem step_flip (d : Dir) (s : Sq) : s.flip.step d.flipV = (s.step d).map Sq.flip := by
  obtain ⟨hf, hr⟩ := flip_coords s
  have := s.rank_lt
  unfold Sq.step
  rw [← mk?_flip, hf, hr, Dir.flipV_delta]
  congr 1
  omega

structure BLinear (f : BB → BB) : Prop where
  zero : f 0#64 = 0#64
  or : ∀ a b, f (a ||| b) = f a ||| f b

theorem BLinear.comp {f g : BB → BB} (hf : BLinear f) (hg : BLinear g) : BLinear (fun b => f (g b)) :=
  ⟨by simp only [hg.zero, hf.zero], fun a b => by simp only [hg.or, hf.or]⟩

theorem BLinear.or' {f g : BB → BB} (hf : BLinear f) (hg : BLinear g) : BLinear (fun b => f b ||| g b) :=
  ⟨by simp only [hg.zero, hf.zero, BitVec.or_zero], fun a b => by
    simp only [hg.or, hf.or]
    ac_rfl⟩

theorem BLinear.andConst (c : BB) : BLinear (fun b => b &&& c) :=
  ⟨BitVec.zero_and, fun _ _ => BitVec.and_or_distrib_right⟩

theorem BLinear.shl (n : Nat) : BLinear (fun b => b <<< n) :=
  ⟨BitVec.zero_shiftLeft n, fun a b => BitVec.shiftLeft_or_distrib a b n⟩

theorem BLinear.shr (n : Nat) : BLinear (fun b => b >>> n) :=
  ⟨BitVec.zero_ushiftRight, fun a b => BitVec.ushiftRight_or_distrib a b n⟩

theorem BLinear.id' : BLinear (fun b => b) := ⟨rfl, fun _ _ => rfl⟩

theorem BLinear.mem_setOf {f : BB → BB} (hf : BLinear f) (l : List Sq) (t : Sq) :
    mem (f (setOf l)) t = l.any fun s => mem (f (bb s)) t := by
  induction l with
  | nil => rw [setOf_nil, hf.zero, mem_zero, List.any_nil]
  | cons x l ih => rw [setOf_cons, hf.or, mem_or, ih, List.any_cons]

theorem linear_ext {f g : BB → BB} (hf : BLinear f) (hg : BLinear g) (h : ∀ s : Sq, f (bb s) = g (bb s))
    (b : BB) : f b = g b := by
  apply ext_mem; intro t
  rw [← setOf_toList b, hf.mem_setOf, hg.mem_setOf]
  simp only [h]

theorem inDir_linear (d : Dir) : BLinear (BB.inDir d) := by
  cases d
  · exact BLinear.shl 8
  · exact (BLinear.andConst BB.notA).comp (BLinear.shl 9)
  · exact (BLinear.andConst BB.notA).comp (BLinear.shl 1)
  · exact (BLinear.andConst BB.notA).comp (BLinear.shr 7)
  · exact BLinear.shr 8
  · exact (BLinear.andConst BB.notH).comp (BLinear.shr 9)
  · exact (BLinear.andConst BB.notH).comp (BLinear.shr 1)
  · exact (BLinear.andConst BB.notH).comp (BLinear.shl 7)

theorem flipV_linear : BLinear BB.flipV := by
  unfold BB.flipV
  exact ((((((((BLinear.shl 56).or' ((BLinear.andConst _).comp (BLinear.shl 40))).or'
    ((BLinear.andConst _).comp (BLinear.shl 24))).or' ((BLinear.andConst _).comp (BLinear.shl 8))).or'
    ((BLinear.andConst _).comp (BLinear.shr 8))).or' ((BLinear.andConst _).comp (BLinear.shr 24))).or'
    ((BLinear.andConst _).comp (BLinear.shr 40))).or' (BLinear.shr 56))

theorem forward_linear (p : Player) : BLinear (BB.forward p) := by
  cases p
  · exact inDir_linear .N
  · exact inDir_linear .S

theorem flipV_bb : ∀ s : Sq, BB.flipV (bb s) = bb s.flip := by decide +kernel

theorem flipV_zero : BB.flipV 0#64 = 0#64 := flipV_linear.zero
theorem flipV_or (a b : BB) : BB.flipV (a ||| b) = BB.flipV a ||| BB.flipV b := flipV_linear.or a b

theorem mem_flipV (b : BB) (t : Sq) : mem (BB.flipV b) t = mem b t.flip := by
  rw [← setOf_toList b, flipV_linear.mem_setOf, BLinear.id'.mem_setOf]
  simp only [flipV_bb, mem_bb, flip_eq_iff]

theorem flipV_flipV (b : BB) : BB.flipV (BB.flipV b) = b := by
  apply ext_mem; intro t
  rw [mem_flipV, mem_flipV, flip_flip]

theorem flipV_and (a b : BB) : BB.flipV (a &&& b) = BB.flipV a &&& BB.flipV b := by
  apply ext_mem; intro t
  simp only [mem_flipV, mem_and]

theorem flipV_xor (a b : BB) : BB.flipV (a ^^^ b) = BB.flipV a ^^^ BB.flipV b := by
  apply ext_mem; intro t
  simp only [mem_flipV, mem_xor]

theorem flipV_not (a : BB) : BB.flipV (~~~a) = ~~~(BB.flipV a) := by
  apply ext_mem; intro t
  simp only [mem_flipV, mem_not]

theorem flipV_eq_zero (a : BB) : BB.flipV a = 0#64 ↔ a = 0#64 := by
  constructor
  · intro h
    have := congrArg BB.flipV h
    rwa [flipV_flipV, flipV_zero] at this
  · intro h; rw [h, flipV_zero]

theorem flipV_inDir (d : Dir) (b : BB) : BB.flipV (BB.inDir d b) = BB.inDir d.flipV (BB.flipV b) :=
  linear_ext (flipV_linear.comp (inDir_linear d)) ((inDir_linear d.flipV).comp flipV_linear) (fun s => by
    rw [inDir_bb, flipV_bb, inDir_bb, step_flip]
    cases s.step d with
    | none => exact flipV_zero
    | some t => exact flipV_bb t) b

theorem flipV_north (b : BB) : BB.flipV (BB.north b) = BB.south (BB.flipV b) := flipV_inDir .N b
theorem flipV_south (b : BB) : BB.flipV (BB.south b) = BB.north (BB.flipV b) := flipV_inDir .S b
theorem flipV_east (b : BB) : BB.flipV (BB.east b) = BB.east (BB.flipV b) := flipV_inDir .E b
theorem flipV_west (b : BB) : BB.flipV (BB.west b) = BB.west (BB.flipV b) := flipV_inDir .W b
theorem flipV_northEast (b : BB) : BB.flipV (BB.northEast b) = BB.southEast (BB.flipV b) := flipV_inDir .NE b
theorem flipV_southEast (b : BB) : BB.flipV (BB.southEast b) = BB.northEast (BB.flipV b) := flipV_inDir .SE b
theorem flipV_southWest (b : BB) : BB.flipV (BB.southWest b) = BB.northWest (BB.flipV b) := flipV_inDir .SW b
theorem flipV_northWest (b : BB) : BB.flipV (BB.northWest b) = BB.southWest (BB.flipV b) := flipV_inDir .NW b

theorem flipV_forward (p : Player) (b : BB) : BB.flipV (BB.forward p b) = BB.forward p.other (BB.flipV b) := by
  cases p
  · exact flipV_north b
  · exact flipV_south b

theorem perm_map_flip {l l' : List Sq} (h' : l'.Nodup) (h : l.Nodup) (hm : ∀ t, t ∈ l' ↔ t.flip ∈ l) :
    l'.Perm (l.map Sq.flip) :=
  (List.perm_ext_iff_of_nodup h' (List.Pairwise.map Sq.flip (fun _ _ hne e => hne (flip_inj e)) h)).2 fun t => by
    rw [hm, mem_map_flip]

theorem toList_flipV_perm (b : BB) : (BB.toList (BB.flipV b)).Perm ((BB.toList b).map Sq.flip) :=
  perm_map_flip (toList_nodup _) (toList_nodup b) fun t => by rw [mem_toList, mem_flipV, mem_toList]

theorem finRange_flip_perm : (List.finRange 64).Perm ((List.finRange 64).map Sq.flip) :=
  perm_map_flip (List.nodup_finRange 64) (List.nodup_finRange 64) fun t => by simp only [List.mem_finRange]

theorem count_flipV (b : BB) : BB.count (BB.flipV b) = BB.count b := by
  unfold BB.count
  rw [(toList_flipV_perm b).length_eq, List.length_map]

end Tcheran
