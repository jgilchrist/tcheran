import TcheranVerif.Model.RayBase
/-!
# First-principles geometry — the specification side of C07

Coordinates only: a square is `(file, rank)`, a ray is walked square by square, leapers are
coordinate offsets, "between" is defined by alignment. No shifts, masks, magics or tables.
-/

namespace Tcheran
namespace Geometry

def setOf (l : List Sq) : BB := l.foldl (fun a t => a ||| bb t) 0#64

/-- squares seen along one ray: up to and including the first occupied square -/
def seen (occ : Sq → Bool) : List Sq → List Sq
  | [] => []
  | t :: ts => if occ t then [t] else t :: seen occ ts

def slideSpec (dirs : List Dir) (s : Sq) (occ : BB) : BB :=
  setOf (dirs.flatMap fun d => seen (mem occ) (Rules.ray d s))

def rookSpec (s : Sq) (occ : BB) : BB := slideSpec Dir.cardinal s occ
def bishopSpec (s : Sq) (occ : BB) : BB := slideSpec Dir.diagonal s occ

def knightSpec (s : Sq) : BB := setOf (Rules.knightDeltas.filterMap fun d => Rules.offset s d.1 d.2)
def kingSpec (s : Sq) : BB := setOf (Rules.kingDeltas.filterMap fun d => Rules.offset s d.1 d.2)
def pawnSpec (s : Sq) (p : Player) : BB :=
  setOf (([-1, 1] : List Int).filterMap fun df => Rules.offset s df (Rules.fwd p))

def absDiff (a b : Nat) : Nat := if a ≤ b then b - a else a - b

/-- `t` lies strictly between `a` and `b` on a common rank, file or diagonal -/
def isBetween (a b t : Sq) : Bool :=
  let aligned := a.rank = b.rank ∨ a.file = b.file ∨ absDiff a.file b.file = absDiff a.rank b.rank
  let onLine :=
    (a.rank = b.rank ∧ t.rank = a.rank) ∨ (a.file = b.file ∧ t.file = a.file) ∨
    (absDiff a.file b.file = absDiff a.rank b.rank ∧ absDiff a.file t.file = absDiff a.rank t.rank
      ∧ absDiff b.file t.file = absDiff b.rank t.rank)
  let strictly :=
    (min a.file b.file ≤ t.file ∧ t.file ≤ max a.file b.file) ∧
    (min a.rank b.rank ≤ t.rank ∧ t.rank ≤ max a.rank b.rank) ∧ t ≠ a ∧ t ≠ b
  a ≠ b && decide aligned && decide onLine && decide strictly

def betweenSpec (a b : Sq) : BB := setOf ((List.finRange 64).filter (isBetween a b))

end Geometry
end Tcheran
