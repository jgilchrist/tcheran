import TcheranVerif.Model.Fen
import TcheranVerif.Proofs.FenRoundTrip
import TcheranVerif.Model.Rules
/-!
# C06 — the FEN reader never crashes and rejects malformed rank widths

Over the model of the `nom` grammar (`Model/Fen.lean`, `List Char` in, `ok | err | panic` out):
* `line_width` — a board line accepted by `fen_line` describes exactly eight squares;
* `position_shape` — an accepted board field consists of eight such lines, hence 64 squares;
* `parse_never_panics` — for **every** input text the outcome is a position or a reported error:
  the only `panic` of the reader (`assert_eq!(all_pieces.len(), 64)`) is unreachable, and the ply
  arithmetic saturates;
* `plies_in_range` — the ply counter computed from any move number fits `u32`.
* **`parse_write`** — losslessness at string level: for **every** position whose key and accumulators are
  in step with its board (C03 / C15: every position of every game), whose clock fits `u32`, whose ply
  counter is below 4000000000 (a round number under `u32Max`) and has the parity of the side to move (`parity_read`, `parity_apply`: every position read from a FEN
  or reached by moves from one), and which has at most sixteen men a side (`parse_crowded`), the reader applied
  to the characters the writer produces gives back that very position — placement in all three views, side,
  rights, e.p. target, both clocks, key, accumulators (the history stack, which a FEN does not carry, is
  empty). `parse_write_fields` is the same on the bare fields, for every
  mailbox (legal or not). **`write_parse_canonical`** — reading a canonical FEN and writing the result gives
  the text again. `built_position_in_step` — every position the reader builds is in step (non-vacuity of `Sync`).
  Proof: `Proofs/FenRoundTrip.lean`.
The tie of the model's grammar to the `nom` parser is the `fen` / `fenrt` correspondence stream.
-/
namespace Tcheran.Props.C06
open Tcheran Tcheran.Fen

theorem line_width (inp : List Char) (sq : List (Option Piece)) (rest : List Char)
    (h : fenLine inp = some (sq, rest)) : sq.length = 8 := by
  rw [fenLine_eq] at h
  split at h
  · rename_i h8
    rw [Option.some.inj h] at h8
    exact h8
  · cases h

theorem more_shape (n : Nat) (r : List Char) (acc ranks : List (List (Option Piece))) (rest : List Char)
    (hacc : ∀ l ∈ acc, l.length = 8)
    (h : fenPosition.more n r acc = some (ranks, rest)) :
    ranks.length = acc.length + n ∧ ∀ l ∈ ranks, l.length = 8 := by
  induction n generalizing r acc with
  | zero =>
    simp only [fenPosition.more, Option.some.injEq, Prod.mk.injEq] at h
    rw [← h.1]; exact ⟨rfl, hacc⟩
  | succ k ih =>
    unfold fenPosition.more at h
    split at h
    · rename_i r'
      simp only [bind, Option.bind_eq_some_iff] at h
      obtain ⟨⟨l, r''⟩, hl, hm⟩ := h
      have := ih r'' (l :: acc) (List.forall_mem_cons.2 ⟨line_width r' l r'' hl, hacc⟩) hm
      exact ⟨by rw [this.1, List.length_cons]; omega, this.2⟩
    · cases h

theorem position_shape (inp : List Char) (ranks : List (List (Option Piece))) (rest : List Char)
    (h : fenPosition inp = some (ranks, rest)) : ranks.length = 8 ∧ ∀ l ∈ ranks, l.length = 8 := by
  unfold fenPosition at h
  simp only [bind, Option.bind_eq_some_iff] at h
  obtain ⟨⟨l8, r⟩, h8, hm⟩ := h
  exact more_shape 7 r [l8] ranks rest (List.forall_mem_singleton.2 (line_width inp l8 r h8)) hm

theorem parse_never_panics (inp : List Char) : ¬ (parseFields inp matches .panic) := by
  have key : parseFields inp ≠ .panic := by
    unfold parseFields
    split
    · nofun
    · rename_i ranks r hpos
      -- the one `panic` is `toVector ranks = none`; an accepted board field flattens to 64 squares
      have hs := position_shape inp ranks r hpos
      have hlen : ranks.flatten.length = 64 := by
        rw [List.length_flatten, List.map_eq_replicate_iff.2 hs.2, List.sum_replicate_nat, hs.1]
      simp only [toVector, dif_pos hlen]
      -- every branch after it answers `err` or `ok`
      repeat' split
      all_goals nofun
  cases h : parseFields inp with
  | panic => exact absurd h key
  | ok _ => simp
  | err => simp

theorem plies_in_range (fm : Nat) (p : Player) : pliesFromFullmove fm p ≤ u32Max := by
  unfold pliesFromFullmove
  omega

theorem plies_of_ordinary (fm : Nat) (h1 : 1 ≤ fm) (h2 : fm ≤ 1000000) :
    pliesFromFullmove fm .white = (fm - 1) * 2 ∧ pliesFromFullmove fm .black = (fm - 1) * 2 + 1 := by
  unfold pliesFromFullmove u32Max
  constructor <;> simp <;> omega

open Board Game in
theorem parse_write (c : Cfg) (g : Game) (hs : Sync c g) (hh : g.halfmove < 4294967296) (hp : g.plies < 4000000000)
    (hpar : g.plies % 2 = if g.player = .black then 1 else 0) (hmen : tooManyMen g.board.squares = false) :
    parse c (write g) = .ok { g with history := [] } :=
  Fen.parse_write c g hs hh hp hpar hmen

/-- more than sixteen men of one colour (which would not fit the evaluation accumulators) is a reported error -/
theorem parse_crowded (c : Cfg) (s : String) (f : Fields) (hf : parseFields s.toList = .ok f)
    (h : tooManyMen f.squares = true) : parse c s = .err := Fen.parse_crowded c s f hf h

theorem parse_ok_men (c : Cfg) (s : String) (g : Game) (h : parse c s = .ok g) :
    tooManyMen g.board.squares = false := Fen.parse_ok_men c s g h

theorem parse_write_fields (sq : Vector (Option Piece) 64) (p : Player) (r : Rights) (ep : Option Sq)
    (halfmove plies : Nat) (hh : halfmove < 4294967296) (hp : plies < 4000000000)
    (hpar : plies % 2 = if p = .black then 1 else 0) :
    parseFields (writeFields sq p r ep halfmove plies).toList =
      .ok { squares := sq, player := p, rights := r, ep := ep, halfmove := halfmove, plies := plies } :=
  Fen.parse_write_fields sq p r ep halfmove plies hh hp hpar

open Board Game in
theorem write_parse_canonical (c : Cfg) (g : Game) (hs : Sync c g) (hh : g.halfmove < 4294967296)
    (hp : g.plies < 4000000000) (hpar : g.plies % 2 = if g.player = .black then 1 else 0)
    (hmen : tooManyMen g.board.squares = false) :
    ∃ g', parse c (write g) = .ok g' ∧ write g' = write g :=
  Fen.write_parse_canonical c g hs hh hp hpar hmen

open Board Game in
theorem built_position_in_step (c : Cfg) (sq : Vector (Option Piece) 64) (p : Player) (r : Rights) (ep : Option Sq)
    (hm pl : Nat) : Sync c (Game.fromState c (Board.ofSquares sq) p r ep hm pl) :=
  sync_fromState c (Board.ofSquares sq) (consistent_ofSquares sq) p r ep hm pl

theorem parity_read (fm : Nat) (p : Player) (h1 : 1 ≤ fm) (h2 : fm ≤ 1000000) :
    pliesFromFullmove fm p % 2 = if p = .black then 1 else 0 := by
  have := plies_of_ordinary fm h1 h2
  cases p
  · rw [this.1]; simp
  · rw [this.2]; simp

theorem parity_apply (pos : Rules.Pos) (m : Move) (h : pos.plies % 2 = if pos.player = Player.black then 1 else 0) :
    (Rules.apply pos m).plies % 2 = if (Rules.apply pos m).player = Player.black then 1 else 0 := by
  have e1 : (Rules.apply pos m).plies = pos.plies + 1 := rfl
  have e2 : (Rules.apply pos m).player = pos.player.other := rfl
  rw [e1, e2]
  cases hp : pos.player <;> rw [hp] at h <;> simp [Player.other] at h ⊢ <;> omega

/-- non-vacuity: the start position is accepted, a nine-wide rank is rejected (not a crash) -/
example : (match parseFields "rnbqkbnr/pppppppp/8/8/8/8/PPPPPPPP/RNBQKBNR w KQkq - 0 1".toList with
    | .ok f => f.plies == 0 && f.halfmove == 0 | _ => false) = true := by decide +kernel
example : (match parseFields "44p/8/8/8/8/8/8/K6k w - - 0 1".toList with | .err => true | _ => false) = true := by
  decide

end Tcheran.Props.C06
#print axioms Tcheran.Props.C06.line_width
#print axioms Tcheran.Props.C06.more_shape
#print axioms Tcheran.Props.C06.position_shape
#print axioms Tcheran.Props.C06.parse_never_panics
#print axioms Tcheran.Props.C06.plies_in_range
#print axioms Tcheran.Props.C06.plies_of_ordinary
#print axioms Tcheran.Props.C06.parse_write
#print axioms Tcheran.Props.C06.parse_write_fields
#print axioms Tcheran.Props.C06.write_parse_canonical
#print axioms Tcheran.Props.C06.built_position_in_step
#print axioms Tcheran.Props.C06.parity_read
#print axioms Tcheran.Props.C06.parity_apply
#print axioms Tcheran.Props.C06.parse_crowded
#print axioms Tcheran.Props.C06.parse_ok_men
