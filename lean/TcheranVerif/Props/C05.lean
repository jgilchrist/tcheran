import TcheranVerif.Proofs.UciCtlFinite
/-!
# C05 — no command history can hang the engine (theorems over the controller model)

The state space of `UciCtl` is finite (9,248 states × 11 events); what rests on the invariant is
decided by the kernel over the *whole* space (`Proofs/UciCtlFinite.lean`), then lifted to every
reachable state / every history / every interleaving by induction on the run. The progress measure
(`thread_step_decreases`) needs neither the invariant nor the enumeration: it is proved by cases on the
program counter of the stepping thread.
-/
namespace Tcheran.Props.C05
open Tcheran.UciCtl

theorem inv_init : Inv init = true := UciCtlFinite.inv_init
theorem blocked_without_threads_resumes_all : blockedWithNoThreadsResumes = true :=
  UciCtlFinite.blocked_without_threads_resumes_all
theorem go_answered_all : goAnswered = true := UciCtlFinite.go_answered_all

theorem mem_allThreads (t : Option Thread) : t ∈ allThreads := by
  cases t with
  | none => exact List.mem_cons_self
  | some th =>
    cases th with
    | mk pc i f =>
      unfold allThreads
      simp only [List.mem_cons, List.mem_flatMap, List.mem_map]
      exact .inr ⟨pc, by cases pc <;> simp [allPC], i, by cases i <;> simp [allBool],
        f, by cases f <;> simp [allBool], rfl⟩

theorem mem_allStates (s : State) : s ∈ allStates := by
  cases s with
  | mk m c l a b =>
    unfold allStates
    simp only [List.mem_flatMap, List.mem_map]
    refine ⟨m, by cases m <;> simp [allMain], c, by cases c <;> simp [allTarget], l, by cases l <;> simp [allBool],
      a, mem_allThreads a, b, mem_allThreads b, rfl⟩

theorem mem_allEvents (e : Event) : e ∈ allEvents := by
  cases e with
  | cmd c => cases c <;> simp [allEvents, allCmds]
  | thread i => cases i <;> simp [allEvents, allCmds]
  | mainResume => simp [allEvents, allCmds]

theorem all_states {f : State → Bool} (h : allStates.all f = true) (s : State) : f s = true :=
  List.all_eq_true.1 h s (mem_allStates s)

theorem inv_step (s s' : State) (e : Event) (hi : Inv s = true) (hs : step s e = some s') : Inv s' = true := by
  have h := all_states UciCtlFinite.inv_preserved_all s
  simp only [hi, Bool.not_true, Bool.false_or] at h
  have h2 := List.all_eq_true.1 h e (mem_allEvents e)
  rwa [hs] at h2

/-- a run: any interleaving of GUI commands (conforming ones only are enabled), thread steps and
    resumptions of the main thread -/
def run : State → List Event → Option State
  | s, [] => some s
  | s, e :: es => (step s e).bind (fun s' => run s' es)

theorem inv_run_from (es : List Event) : ∀ (s0 : State), Inv s0 = true → ∀ s, run s0 es = some s → Inv s = true := by
  induction es with
  | nil =>
    intro s0 h0 s hr
    cases hr
    exact h0
  | cons e es ih =>
    intro s0 h0 s hr
    obtain ⟨s1, hst, hr⟩ := Option.bind_eq_some_iff.1 hr
    exact ih s1 (inv_step s0 s1 e h0 hst) s hr

theorem inv_run (es : List Event) (s : State) (h : run init es = some s) : Inv s = true :=
  inv_run_from es init inv_init s h

/-- **no deadlock in any reachable state**: whenever the main thread is blocked it can either resume
    or a search thread can take a step -/
theorem no_deadlock_run (es : List Event) (s : State) (h : run init es = some s)
    (hb : s.main = .waitLatch ∨ s.main = .waitMutex) : (mainResume s).isSome = true ∨ someThreadEnabled s = true := by
  have hd := all_states UciCtlFinite.no_deadlock_all s
  simp only [inv_run es s h, Bool.not_true, Bool.false_or] at hd
  rcases hb with hb | hb <;> rw [hb] at hd <;> simpa using hd

/-- **progress measure**: every thread step strictly decreases `rank` (at most 8) and leaves the main
    thread's state alone, so the threads cannot step for ever while the main thread waits. NOT stated: that
    the main thread is released within `rank s` thread steps; it would also need that a thread step never
    disables `mainResume`, which none of the model's checkers covers. Proved are the pieces: this one,
    `no_deadlock_run` and `blocked_without_threads_resumes_all`. -/
theorem thread_step_decreases (s s' : State) (i : Bool) (h : threadStep s i = some s') :
    rank s' < rank s ∧ s'.main = s.main :=
  UciCtlFinite.threadStep_rank s s' i h

/-- **isready is always served**: in every reachable state where the main thread is idle, `isready`,
    `stop` and `quit` are accepted at once -/
theorem isready_served_run (es : List Event) (s : State) (h : run init es = some s) (hidle : s.main = .idle) :
    (cmdStep s .isready).isSome = true ∧ (cmdStep s .quit).isSome = true ∧ (cmdStep s .stop).isSome = true := by
  have hd := all_states UciCtlFinite.isready_always_served_all s
  simp only [inv_run es s h, hidle] at hd
  simpa [and_assoc] using hd

end Tcheran.Props.C05
#print axioms Tcheran.Props.C05.mem_allThreads
#print axioms Tcheran.Props.C05.mem_allStates
#print axioms Tcheran.Props.C05.mem_allEvents
#print axioms Tcheran.Props.C05.all_states
#print axioms Tcheran.Props.C05.inv_step
#print axioms Tcheran.Props.C05.inv_run_from
#print axioms Tcheran.Props.C05.inv_run
#print axioms Tcheran.Props.C05.no_deadlock_run
#print axioms Tcheran.Props.C05.thread_step_decreases
#print axioms Tcheran.Props.C05.isready_served_run
#print axioms Tcheran.Props.C05.inv_init
#print axioms Tcheran.Props.C05.blocked_without_threads_resumes_all
#print axioms Tcheran.Props.C05.go_answered_all
