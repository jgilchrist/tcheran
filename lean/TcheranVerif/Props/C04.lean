import TcheranVerif.Model.Search
import TcheranVerif.Proofs.SearchSound
import TcheranVerif.Proofs.MenCount
/-!
# C04 — the search answers with a legal move and never overflows its score or counter arithmetic
(theorems over the search model)

**`search_returns_legal`** (`soundInv` of `Proofs/SearchSound.lean`): for every legal root position, every fuel, depth
limit, stop instant, table size and table content left by earlier searches of the same game (`TTGood`), the move the
search model answers with is a legal move of the root — whether it is the head of the principal variation or the
fall-back first move of the picker. The one assumption is stated in the theorem: the 64-bit key does not confuse two
positions of the universe that have different legal moves (the field `inj` of `U`, `KeyFaithful` for the canonical
universe of a root; it cannot be discharged).
`search_answers_unless_panic`: the only way not to answer is the outcome `panic` of the model (the
checked-arithmetic / index / `unwrap` failures).

The `i16` arithmetic of the model is *checked*: an overflow is the outcome `panic`. Under the window invariant that
holds off the root (`-32767 ≤ α < β ≤ 32767`) none of the window computations of `negamax`, of the aspiration loop and
of the mate helpers can overflow (`child_window`, `root_children`, `sat_in_range`, `clamp_in_range`, `width_grows`),
and the 8-bit generation counter is total.

**`reach_no_eval_panic`** and its companions rule panics out at every position a search from a legal root can reach
(`ReachN`: legal moves and null moves out of check, to any depth — a superset of what any search visits): the static
evaluation is total — no table index out of range, no `i16` narrowing failure — and strictly inside the non-mate
range (C16 `eval_bounded`, from at most sixteen men a side, `men_apply`), the reverse-futility and futility margins
computed from it do not overflow, `make_move` answers for every legal move. NOT proved, left to the runs on the
implementation in both build profiles: the remaining resource panics of whole searches (the 218-slot move list, the
255-row killer table and PV at extreme depth).
-/
namespace Tcheran.Props.C04
open Tcheran Tcheran.Search

theorem child_window (alpha beta : Int) (ha : -32767 ≤ alpha) (hab : alpha < beta) (hb : beta ≤ 32767) :
    -32767 ≤ neg beta ∧ neg beta < neg alpha ∧ neg alpha ≤ 32767 ∧
    -- zero-window probe `(-α-1, -α)`
    -32767 ≤ neg alpha - 1 ∧ neg alpha - 1 < neg alpha ∧
    -- null-move window `(-β, -β+1)`
    neg beta + 1 ≤ 32767 ∧
    -- `is_pv` test `β - 1`
    inI16 (beta - 1) = true := by
  rw [inI16_iff]
  unfold neg i16Min i16Max
  split <;> split <;> omega

/-- the root window of an iteration (`no_window` or `around`) leads to children that satisfy the
    invariant: `neg` saturates `i16::MIN` -/
theorem root_children (alpha beta : Int) (ha : -32768 ≤ alpha) (hab : alpha < beta) (hb : beta ≤ 32767)
    (hb' : -32767 < beta) :
    -32767 ≤ neg beta ∧ neg beta < neg alpha ∧ neg alpha ≤ 32767 := by
  unfold neg i16Min i16Max
  split <;> split <;> omega

/-- `saturating_add/sub` and the clamps keep every aspiration bound inside `i16` -/
theorem sat_in_range (v : Int) : inI16 (sat v) = true := by
  rw [inI16_iff]
  unfold sat i16Min i16Max
  omega

theorem clamp_in_range (v : Int) (h : inI16 v = true) : inI16 (clampAlpha v) = true ∧ inI16 (clampBeta v) = true := by
  simp only [inI16_iff] at h ⊢
  unfold clampAlpha clampBeta i16Min i16Max
  omega

/-- the widening step grows the width strictly until it saturates (so the window eventually spans
    the whole score range) -/
theorem width_grows (w : Int) (h1 : 2 ≤ w) (h2 : w < 32767) :
    w < sat (w + Int.tdiv w 2) ∧ sat (w + Int.tdiv w 2) ≤ 32767 := by
  unfold sat i16Min i16Max
  rw [Int.tdiv_eq_ediv_of_nonneg (by omega)]
  omega

/-- the first width, which meets the hypothesis `2 ≤ w` of `width_grows` -/
theorem aspiration_width_const : Gen.p_aspiration_window_size = 25 := by decide

theorem pruning_margins (ev : Int) (depth : Nat) (h : -31900 < ev ∧ ev < 31900)
    (hd : depth ≤ Gen.p_reverse_futility_prune_depth) :
    inI16 (ev - Gen.p_reverse_futility_prune_margin_per_ply * depth) = true ∧
    inI16 (ev + Gen.p_futility_prune_max_move_value) = true := by
  have e1 : Gen.p_reverse_futility_prune_depth = 4 := by decide
  have e2 : Gen.p_reverse_futility_prune_margin_per_ply = 150 := by decide
  have e3 : Gen.p_futility_prune_max_move_value = 135 := by decide
  rw [e1] at hd
  rw [e2, e3, inI16_iff, inI16_iff]
  omega

theorem generation_total (t : TT.Table) : t.newGeneration.generation < 256 :=
  Nat.mod_lt _ (by decide)

def iterGen : Nat → TT.Table → TT.Table
  | 0, t => t
  | n+1, t => iterGen n t.newGeneration

theorem generation_iter (t : TT.Table) (n : Nat) (h : t.generation < 256) :
    (iterGen n t).generation < 256 := by
  induction n generalizing t with
  | zero => exact h
  | succ k ih => exact ih _ (generation_total t)

/-- killer table rows exist for every ply the quiescence guard lets through -/
theorem killers_rows : newKillers.size = 255 := by
  unfold newKillers
  rw [Array.size_replicate]
  decide

open Rules in
/-- `tt`: a fresh table, a reset one, or one left by earlier searches of positions of the same universe
(`search_keeps_table_good`) -/
theorem search_returns_legal (T : SliderTables) (U : Universe) (fuel : Nat) (g : Game) (tt : TT.Table)
    (history : Array Int) (depthLimit : Option Nat) (stopAt : Nat) (everyNode : Bool)
    (hr : U.R 0 g) (htt : TTGood U tt) (m : Move)
    (hm : (search fuel g tt history depthLimit stopAt everyNode).best = some m) :
    m ∈ legalMoves (ofGame g) :=
  (search_sound T U 0 fuel g tt history depthLimit stopAt everyNode hr htt).1 m hm

open Rules in
theorem search_keeps_table_good (T : SliderTables) (U : Universe) (fuel : Nat) (g : Game) (tt : TT.Table)
    (history : Array Int) (depthLimit : Option Nat) (stopAt : Nat) (everyNode : Bool)
    (hr : U.R 0 g) (htt : TTGood U tt) :
    TTGood U (search fuel g tt history depthLimit stopAt everyNode).ctx.tt :=
  (search_sound T U 0 fuel g tt history depthLimit stopAt everyNode hr htt).2.2

open Rules in
/-- for the canonical universe of a legal root and a freshly allocated table of any size: no hypothesis on the table
is left -/
theorem fresh_search_returns_legal (T : SliderTables) (root : Game) (h : SInv root) (hk : KeyFaithful root)
    (fuel mb : Nat) (history : Array Int) (depthLimit : Option Nat) (stopAt : Nat) (everyNode : Bool) (m : Move)
    (hm : (search fuel root (TT.new mb) history depthLimit stopAt everyNode).best = some m) :
    m ∈ legalMoves (ofGame root) :=
  search_returns_legal T (Universe.ofRoot root h hk) fuel root (TT.new mb) history depthLimit stopAt everyNode
    ReachN.root (ttGood_new _ mb) m hm

open Rules in
/-- a second search, on the table the first one left, from a position `k` plies further down the same game -/
theorem search_after_search (T : SliderTables) (U : Universe) (f1 f2 : Nat) (g1 g2 : Game) (k : Nat) (tt : TT.Table)
    (h1 h2 : Array Int) (d1 d2 : Option Nat) (s1 s2 : Nat) (e1 e2 : Bool)
    (hr1 : U.R 0 g1) (hr2 : U.R k g2) (htt : TTGood U tt) (m : Move)
    (hm : (search f2 g2 (search f1 g1 tt h1 d1 s1 e1).ctx.tt h2 d2 s2 e2).best = some m) :
    m ∈ legalMoves (ofGame g2) :=
  (search_sound T U k f2 g2 _ h2 d2 s2 e2 hr2 (search_keeps_table_good T U f1 g1 tt h1 d1 s1 e1 hr1 htt)).1 m hm

theorem search_answers_unless_panic (fuel : Nat) (g : Game) (tt : TT.Table) (history : Array Int)
    (depthLimit : Option Nat) (stopAt : Nat) (everyNode : Bool) :
    (search fuel g tt history depthLimit stopAt everyNode).best.isSome = true ∨
    (search fuel g tt history depthLimit stopAt everyNode).panic.isSome = true := by
  unfold search
  simp only
  repeat' split
  all_goals simp

/-! `T : SliderTables` (the two magic lookups equal the ray walks) is discharged by `Props.C01.sliderTables`
    from `Props.C07`. -/

/-- non-vacuity: the hypotheses are satisfiable. A concrete legal root (`7k/6Q1/6K1/8/8/8/8/8 b`, the side
to move checkmated: nothing is reachable, so key faithfulness is provable; for a root with moves it is
the stated assumption) -/
def mateBoard : Board :=
  ((Board.empty.setAt ⟨63, by decide⟩ ⟨.king, .black⟩).setAt ⟨54, by decide⟩ ⟨.queen, .white⟩).setAt
    ⟨46, by decide⟩ ⟨.king, .white⟩

def mateGame : Game :=
  { player := .black, board := mateBoard, rights := Rights.none, ep := none, halfmove := 0,
    plies := 1, zobrist := 0#64, inc := default, history := [] }

theorem mate_sinv : SInv mateGame := by
  refine ⟨?_, ginv_of_legal _ (by decide +kernel)⟩
  show Board.Consistent mateBoard
  unfold mateBoard
  refine Board.consistent_setAt _ _ _ (Board.consistent_setAt _ _ _ (Board.consistent_setAt _ _ _
    Board.consistent_empty ?_) ?_) ?_ <;> decide +kernel

theorem mate_only_root : ∀ n g, ReachN mateGame n g → g = mateGame := by
  intro n g h
  induction h with
  | root => rfl
  | move n g g' m _ hl _ ih =>
    subst ih
    have : Rules.legalMoves (Rules.ofGame mateGame) = [] := by decide +kernel
    rw [this] at hl; cases hl
  | null n g _ hc ih =>
    subst ih
    have : Rules.inCheck mateGame.board.squares mateGame.player = true := by decide +kernel
    rw [this] at hc; cases hc

example : ∃ (root : Game) (_ : SInv root), KeyFaithful root :=
  ⟨mateGame, mate_sinv, fun n1 n2 g1 g2 h1 h2 _ m => by
    rw [mate_only_root n1 g1 h1, mate_only_root n2 g2 h2]⟩

example : -32767 ≤ neg 50 ∧ neg 50 < neg (-50) := by decide

open Rules in
theorem reach_invariants (root : Game) (hs : Sync theCfg root) (hl : legalPos (ofGame root) = true)
    (n : Nat) (g : Game) (hr : ReachN root n g) : NodeOk g :=
  reach_facts root (nodeOk_of_legal root hs hl) n g hr

open Rules in
theorem reach_no_eval_panic (T : SliderTables) (root : Game) (hs : Sync theCfg root)
    (hl : legalPos (ofGame root) = true) (n : Nat) (g : Game) (hr : ReachN root n g) :
    ∃ v, Eval.eval g = some v ∧ -31900 < v ∧ v < 31900 ∧ isMateInMoves v = none :=
  reach_eval T root hs hl n g hr

open Rules in
theorem reach_margins (T : SliderTables) (root : Game) (hs : Sync theCfg root)
    (hl : legalPos (ofGame root) = true) (n : Nat) (g : Game) (hr : ReachN root n g) (depth : Nat)
    (hd : depth ≤ Gen.p_reverse_futility_prune_depth) :
    ∃ ev, Eval.eval g = some ev ∧
      inI16 (ev - Gen.p_reverse_futility_prune_margin_per_ply * depth) = true ∧
      inI16 (ev + Gen.p_futility_prune_max_move_value) = true := by
  obtain ⟨v, hv, b1, b2, _⟩ := reach_eval T root hs hl n g hr
  exact ⟨v, hv, pruning_margins v depth ⟨b1, b2⟩ hd⟩

open Rules in
theorem reach_make_total (root : Game) (hs : Sync theCfg root) (hl : legalPos (ofGame root) = true)
    (n : Nat) (g : Game) (hr : ReachN root n g) (m : Move) (hm : m ∈ legalMoves (ofGame g)) :
    ∃ g', Game.makeMove theCfg g m = some g' ∧ ReachN root (n + 1) g' := by
  obtain ⟨g', hg'⟩ := make_total_legal g m (reach_invariants root hs hl n g hr).sinv hm
  exact ⟨g', hg', ReachN.move n g g' m hr hm hg'⟩

end Tcheran.Props.C04
#print axioms Tcheran.Props.C04.child_window
#print axioms Tcheran.Props.C04.root_children
#print axioms Tcheran.Props.C04.sat_in_range
#print axioms Tcheran.Props.C04.clamp_in_range
#print axioms Tcheran.Props.C04.width_grows
#print axioms Tcheran.Props.C04.aspiration_width_const
#print axioms Tcheran.Props.C04.pruning_margins
#print axioms Tcheran.Props.C04.generation_total
#print axioms Tcheran.Props.C04.generation_iter
#print axioms Tcheran.Props.C04.killers_rows
#print axioms Tcheran.Props.C04.search_returns_legal
#print axioms Tcheran.Props.C04.search_keeps_table_good
#print axioms Tcheran.Props.C04.fresh_search_returns_legal
#print axioms Tcheran.Props.C04.search_after_search
#print axioms Tcheran.Props.C04.search_answers_unless_panic
#print axioms Tcheran.Props.C04.mate_sinv
#print axioms Tcheran.Props.C04.mate_only_root
#print axioms Tcheran.Props.C04.reach_no_eval_panic
#print axioms Tcheran.Props.C04.reach_margins
#print axioms Tcheran.Props.C04.reach_make_total
#print axioms Tcheran.Props.C04.reach_invariants
