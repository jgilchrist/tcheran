import TcheranVerif.Model.UciMove
import TcheranVerif.Model.Movegen
import TcheranVerif.Proofs.PositionCmd
import TcheranVerif.Proofs.TextPrim
/-!
# C17 — the position command: move text, and unique matching of a text against the legal moves

* `move_text_roundtrip` — reading the long-algebraic text of any (source, destination, promotion)
  triple returns that triple and consumes exactly the text (all 64·64·5 triples; `parseMove_text` in
  `Proofs/TextPrim.lean`): lower-case promotion letters, four or five characters.
* `notation_injective` — different triples have different texts.
* `expect_matching_unique` — on a move list in which (source, destination, promotion) determines the
  move, the first match of `expect_matching` is the only match, so the move played is the move meant.
* **`key_determines_move`** — in every position, among the legal moves of the rules (source, destination,
  promotion) determines the move, label included: the hypothesis of `expect_matching_unique` always holds.
* **`position_replays`** — for every legal start (views in agreement, `GInv`) and every game of legal moves
  given as move texts, the model of the `position` command (`generate_legal_moves`, `expect_matching`,
  `make_move`, move by move) answers with exactly the position the rules reach, and the invariant still
  holds there. One side condition is explicit: the 218-slot move list is not exceeded along the game.
The tie of this model to the binary is the UCI phase (`d fen`, `d perftdiv 1` after single commands and after
growing move lists of one game in one process, with and without `ucinewgame`).
-/
namespace Tcheran.Props.C17
open Tcheran Tcheran.UciMove

theorem move_text_roundtrip : ∀ src dst : Sq, ∀ p ∈ allPromos,
    parseMove (text ⟨src, dst, p⟩) = some (⟨src, dst, p⟩, []) := fun _ _ _ _ => parseMove_text _

theorem notation_injective (a b : Text) (h : text a = text b) : a = b := by
  have := parseMove_text a
  rw [h, parseMove_text b] at this
  exact (Prod.mk.inj (Option.some.inj this)).1.symm

/-- `keyOf` and `expectMatching` restate `UciMove.keyOf` (the same term) and the `find?` inside `UciMove.applyText`
for an arbitrary list, apart from the generator; `position_replays` speaks of the model's. -/
def keyOf (m : Move) : Text := ⟨m.src, m.dst, m.promotion⟩

/-- `MoveListExt::expect_matching` finds the first move with the given key -/
def expectMatching (legal : List Move) (t : Text) : Option Move := legal.find? (fun m => keyOf m = t)

theorem expect_matching_unique (legal : List Move) (t : Text) (m : Move)
    (hinj : ∀ a ∈ legal, ∀ b ∈ legal, keyOf a = keyOf b → a = b)
    (hm : m ∈ legal) (hk : keyOf m = t) : expectMatching legal t = some m :=
  find?_unique hm (decide_eq_true hk) fun x hx hp =>
    hinj x hx m hm ((of_decide_eq_true hp).trans hk.symm)

open Rules in
theorem key_determines_move (pos : Rules.Pos) (a b : Move) (ha : a ∈ legalMoves pos) (hb : b ∈ legalMoves pos)
    (hk : UciMove.keyOf a = UciMove.keyOf b) : a = b :=
  have ⟨hs, hd, hp⟩ := Text.mk.inj hk
  legal_key_inj pos a b ha hb hs hd hp

open Rules Game in
theorem position_replays (T : SliderTables) (ms : List Move) (g : Game) (pos' : Rules.Pos) (h : Search.SInv g)
    (hp : LegalPath (ofGame g) ms pos')
    (hfit : ∀ k gk, makeMoves theCfg g (ms.take k) = some gk → (generateLegal gk).isSome = true) :
    ∃ g', UciMove.positionCmd g (ms.map UciMove.keyOf) = some g' ∧ ofGame g' = pos' ∧ Search.SInv g' := by
  obtain ⟨g', h1, _, h3, h4⟩ := Tcheran.position_replays T ms g pos' h hp hfit
  exact ⟨g', h1, h3, h4⟩

/-- castling is written as the king's move: the text of a castling move is `e1g1`-style, not `O-O` -/
example : text (keyOf (Move.castles E1 G1)) = "e1g1".toList := by decide
example : text (keyOf (Move.capturePromotion ⟨52, by decide⟩ ⟨61, by decide⟩ .knight)) = "e7f8n".toList := by decide

end Tcheran.Props.C17
#print axioms Tcheran.Props.C17.move_text_roundtrip
#print axioms Tcheran.Props.C17.notation_injective
#print axioms Tcheran.Props.C17.expect_matching_unique
#print axioms Tcheran.Props.C17.key_determines_move
#print axioms Tcheran.Props.C17.position_replays
