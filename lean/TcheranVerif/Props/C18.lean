import TcheranVerif.Model.San
import TcheranVerif.Proofs.SanLegal
import TcheranVerif.Proofs.GenerateNodup
import TcheranVerif.Proofs.GameInv
/-!
# C18 — SAN output names the move: the reader returns it; shape and check suffix of the text

* `format_shape` — the text is `body ++ "+"` when the move gives check and `body` otherwise, where
  `body` is `O-O` / `O-O-O` for castling and `piece/file ++ disambiguation ++ "x"? ++ destination ++
  "=P"?` otherwise — in particular castling that gives check carries the suffix;
* `body_has_no_plus` — the body never contains `+`, so the text ends in `+` **exactly when** the move
  gives check;
* `disambiguation_minimal` — no other like piece reaching the square ⇒ none; none of them on the
  mover's file ⇒ the file; otherwise none on its rank ⇒ the rank; otherwise both.
* **`san_reads_back`** / **`san_names_one_move`** — for every position satisfying the game invariant (one king a
  side, e.p. target with the pushed pawn behind it; every legal position and everything reachable from one,
  C02) and the legal-move list of the rules in any duplicate-free order (what the engine's generator returns,
  C01): the writer answers for every legal move (`format_total`), the reader applied to that text returns
  **exactly that move** — never an error, a panic or another move — and therefore two different legal moves
  never get the same text. `Proofs/SanRoundTrip.lean` proves it at the level of characters for any context
  with `San.WF`, `Proofs/SanLegal.lean` derives `WF` from the rules (pawn geometry,
  one king, (source, destination, promotion) identifies a legal move). `san_engine` instantiates it with
  the engine's own generator and board. Each rests on a particular of the code: the disambiguation looks at every other
  like piece that reaches the square (else `Nd2` twice), castling carries the suffix and the reader strips it
  before it tests for castling (else `O-O+` is unreadable), the reader takes the file letter of a pawn capture
  as its resolution and splits `=P` off first (else `exd5`, `exd8=Q` panic).
That the text is the *standard* one (piece letters, `x`, `=Q`, `O-O`, minimal disambiguation as FIDE words
it) is `disambiguation_minimal` / `format_shape` plus the comparison of every generated text with the
independent FIDE specification `San.spec` in the `san` stream.
-/
namespace Tcheran.Props.C18
open Tcheran Tcheran.San

def noPlus (s : String) : Bool := !(s.toList.contains '+')

def body (c : San.Ctx) (mv : Move) : Option String := do
  let k ← c.kindAt mv.src
  if k = .king ∧ mv.src = Game.kingStart c.player ∧ mv.dst = Game.kingsideCastleDest c.player then pure "O-O"
  else if k = .king ∧ mv.src = Game.kingStart c.player ∧ mv.dst = Game.queensideCastleDest c.player then pure "O-O-O"
  else
    let amb ← requiredAmbiguity c mv
    let ident := match k with
      | .pawn => if mv.isCapture then fileStr mv.src else ""
      | k => pieceLetter k
    let ambText := match amb with
      | .none => "" | .file => fileStr mv.src | .rank => rankStr mv.src | .exact => mv.src.notation
    let x := if mv.isCapture then "x" else ""
    let promo := match mv.promotion with
      | some p => "=" ++ promoLetter p
      | none => ""
    pure (ident ++ ambText ++ x ++ mv.dst.notation ++ promo)

theorem format_shape (c : San.Ctx) (mv : Move) :
    format c mv = (body c mv).map (fun b => b ++ (if c.givesCheck mv then "+" else "")) := by
  unfold format body
  cases hk : c.kindAt mv.src with
  | none => rfl
  | some k =>
    simp only [bind, Option.bind, pure]
    split
    · rfl
    · split
      · rfl
      · cases requiredAmbiguity c mv with
        | none => rfl
        | some amb =>
          simp only [Option.map, String.append_assoc]
          rfl

theorem body_has_no_plus (c : San.Ctx) (mv : Move) (b : String) (h : body c mv = some b) : noPlus b = true := by
  -- `b ++ check` is the writer's text (`format_shape`), whose characters `format_chars` lists
  have hf : format c mv = some (b ++ (if c.givesCheck mv then "+" else "")) := by rw [format_shape, h]; rfl
  obtain ⟨k, _, hcase⟩ := format_chars c mv _ hf
  have hb : ∀ X, (b ++ (if c.givesCheck mv then "+" else "")).toList = X ++ checkL (c.givesCheck mv) → b.toList = X := by
    intro X e
    rw [String.toList_append, checkL_toList] at e
    exact List.append_cancel_right e
  unfold noPlus
  rcases hcase with ⟨_, ht⟩ | ⟨_, ht⟩ | ⟨amb, _, ht⟩ <;> rw [hb _ ht]
  · decide
  · decide
  · simpa using plus_not_mem_body (plainL_append (plainL_ident k mv) (plainL_amb amb mv)) _ _ _

theorem disambiguation_minimal (c : San.Ctx) (mv : Move) (k : PieceKind) (hk : c.kindAt mv.src = some k)
    (hnp : k ≠ .pawn) (hnk : k ≠ .king) :
    let cands := c.legal.filter fun m => m.dst = mv.dst ∧ c.kindAt m.src = some k ∧ m ≠ mv
    requiredAmbiguity c mv = some (
      if cands.isEmpty then .none
      else if !(cands.any fun m => m.src.file = mv.src.file) then .file
      else if !(cands.any fun m => m.src.rank = mv.src.rank) then .rank
      else .exact) :=
  requiredAmbiguity_piece c mv k hk hnp hnk

theorem pawn_king_no_disambiguation (c : San.Ctx) (mv : Move) (k : PieceKind) (hk : c.kindAt mv.src = some k)
    (h : k = .pawn ∨ k = .king) : requiredAmbiguity c mv = some .none :=
  requiredAmbiguity_pawn_king c mv k hk h

theorem format_total (c : San.Ctx) (mv : Move) (h : WF c mv) : ∃ t, format c mv = some t := by
  obtain ⟨k, hk⟩ := Option.isSome_iff_exists.1 (h.kinds mv h.mem)
  obtain ⟨amb, ha⟩ : ∃ amb, requiredAmbiguity c mv = some amb := by
    by_cases hpk : k = .pawn ∨ k = .king
    · exact ⟨_, requiredAmbiguity_pawn_king c mv k hk hpk⟩
    · exact ⟨_, requiredAmbiguity_piece c mv k hk (fun e => hpk (Or.inl e)) (fun e => hpk (Or.inr e))⟩
  -- the man is there and the disambiguation is defined: each of the writer's three branches answers
  simp only [format, hk, ha, bind, Option.bind, pure]
  split
  · exact ⟨_, rfl⟩
  · split <;> exact ⟨_, rfl⟩

theorem parse_format (c : San.Ctx) (mv : Move) (t : String) (h : WF c mv) (hf : format c mv = some t) :
    parse c t = .ok mv := San.parse_format c mv t h hf

theorem san_reads_back (pos : Rules.Pos) (hi : GInv pos) (legal : List Move) (hn : legal.Nodup)
    (hex : ∀ m, m ∈ legal ↔ m ∈ Rules.legalMoves pos) (gc : Move → Bool) (mv : Move) (hmv : mv ∈ legal) :
    ∃ t, format (rulesCtx pos legal gc) mv = some t ∧ parse (rulesCtx pos legal gc) t = .ok mv := by
  have h := san_wf pos hi legal hn hex gc mv hmv
  obtain ⟨t, ht⟩ := format_total _ mv h
  exact ⟨t, ht, San.parse_format _ mv t h ht⟩

theorem san_names_one_move (pos : Rules.Pos) (hi : GInv pos) (legal : List Move) (hn : legal.Nodup)
    (hex : ∀ m, m ∈ legal ↔ m ∈ Rules.legalMoves pos) (gc : Move → Bool) (m1 m2 : Move)
    (h1 : m1 ∈ legal) (h2 : m2 ∈ legal) (t : String)
    (f1 : format (rulesCtx pos legal gc) m1 = some t) (f2 : format (rulesCtx pos legal gc) m2 = some t) : m1 = m2 :=
  San.format_injective _ m1 m2 t (san_wf pos hi legal hn hex gc m1 h1) (san_wf pos hi legal hn hex gc m2 h2) f1 f2

theorem san_engine (T : SliderTables) (g : Game) (hc : g.board.Consistent)
    (hl : Rules.legalPos (Rules.ofGame g) = true) (gc : Move → Bool) :
    ∃ caps cache quiets, generateCaptures g = some (caps, cache) ∧ generateQuiets g cache = some quiets ∧
      ∀ mv ∈ caps ++ quiets, ∃ t,
        format { player := g.player, legal := caps ++ quiets,
                 kindAt := fun s => (g.board.pieceAt s).map (·.kind), givesCheck := gc } mv = some t ∧
        parse { player := g.player, legal := caps ++ quiets,
                kindAt := fun s => (g.board.pieceAt s).map (·.kind), givesCheck := gc } t = .ok mv := by
  obtain ⟨k, hk⟩ := posH_of_legal g hc hl
  obtain ⟨caps, cache, quiets, h1, h2, h3⟩ := Tcheran.generate_exact T g k hk
  refine ⟨caps, cache, quiets, h1, h2, ?_⟩
  intro mv hmv
  exact san_reads_back (Rules.ofGame g) (ginv_of_legal _ hl) (caps ++ quiets)
    (generate_nodup T g k hk caps cache quiets h1 h2) h3 gc mv hmv

/-- non-vacuity: `7b/8/8/4Pp2/3K4/8/8/k7 w - f6` satisfies the invariant, so every hypothesis of
`san_reads_back` is met by its legal-move list -/
example : Rules.legalPos ⟨(((((Board.empty.setAt ⟨27, by decide⟩ ⟨.king, .white⟩).setAt ⟨0, by decide⟩ ⟨.king, .black⟩).setAt
    ⟨36, by decide⟩ ⟨.pawn, .white⟩).setAt ⟨37, by decide⟩ ⟨.pawn, .black⟩).setAt ⟨63, by decide⟩ ⟨.bishop, .black⟩).squares,
    .white, Rights.none, some ⟨45, by decide⟩, 0, 0⟩ = true := by decide +kernel

end Tcheran.Props.C18
#print axioms Tcheran.Props.C18.format_shape
#print axioms Tcheran.Props.C18.body_has_no_plus
#print axioms Tcheran.Props.C18.disambiguation_minimal
#print axioms Tcheran.Props.C18.pawn_king_no_disambiguation
#print axioms Tcheran.Props.C18.format_total
#print axioms Tcheran.Props.C18.parse_format
#print axioms Tcheran.Props.C18.san_reads_back
#print axioms Tcheran.Props.C18.san_names_one_move
#print axioms Tcheran.Props.C18.san_engine
