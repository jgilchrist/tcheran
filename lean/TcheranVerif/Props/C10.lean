import TcheranVerif.Proofs.PickerStages
import TcheranVerif.Proofs.GenerateNodup
import TcheranVerif.Model.Search
/-!
# C10 — the staged move picker yields every generated move exactly once

Model: `Model/Picker.lean` (`MovePicker::next`, block by block). The generator outputs, both scoring
functions, the hash move, both killers and the counter move are parameters (`Env`), so the theorems
hold for **every** content of the killer / counter / history tables, remembered moves that are not legal
here included (they are simply never found by the scans).

* **`picker_perm`** — with a hash move that is one of the generated moves, or none, the stream drained from a
  fresh picker is a permutation of `captures ++ quiets`: nothing missing, nothing extra, nothing twice.
* **`loud_perm`** — the captures-only picker yields a permutation of the capture list (captures and
  queen promotions, as generated).
* `drain_stable` — the stream does not depend on the fuel once it exceeds the measure: the model's loop
  ends because `next` answered `None`, as the Rust `while let Some(..)` loop does.
* `next_after_done` — at `Done` every further call answers `None` (the `unreachable!()` is unreachable).
The fuel asked for, `10 * bound env`, is the measure `mu` of a fresh picker: `rank .bestMove = 10` stages to go,
the work inside a stage staying below `bound env`.

Hypothesis `EnvOk` (the two generated lists are duplicate-free and disjoint) is discharged for the
engine's own generator by `envOk_of_generate` (from `generate_nodup`, C01), and
* **`picker_stream_legal`** — C10 over the composed models: in every position meeting `PosH`, for every table
  content and any hash move that is legal or absent, the stream of the search's picker is a permutation of a list
  whose members are exactly the rules' legal moves.
The tie of `Env` to the real generator and scoring is the ordered-stream correspondence.
-/
namespace Tcheran.Props.C10
open Tcheran Tcheran.Picker

theorem inv_new (env : Env) (hash : Option Move)
    (hh : ∀ h, hash = some h → h ∈ env.captures ∨ h ∈ env.quiets) : Inv env (Picker.new hash) :=
  Inv.of_pre rfl rfl rfl rfl rfl hh nofun

theorem inv_newLoud (env : Env) : Inv env Picker.newLoud :=
  Inv.of_pre rfl rfl rfl rfl rfl nofun (fun _ => rfl)

theorem picker_perm (env : Env) (hE : EnvOk env) (hash : Option Move)
    (hh : ∀ h, hash = some h → h ∈ env.captures ∨ h ∈ env.quiets)
    (fuel : Nat) (hf : 10 * bound env < fuel) :
    (drain env fuel (Picker.new hash)).Perm (env.captures ++ env.quiets) :=
  drain_perm hE (inv_new env hash hh) (by unfold mu work; simp only [Picker.new, rank]; omega)
    (envOk_iff_nodup.1 hE)
    fun x => by unfold InP qs; simp [Picker.new]

theorem first_none_empty (env : Env) (hE : EnvOk env) (hash : Option Move)
    (hh : ∀ h, hash = some h → h ∈ env.captures ∨ h ∈ env.quiets)
    (h : (Picker.next env (Picker.new hash)).1 = none) : env.captures = [] ∧ env.quiets = [] := by
  have hp := picker_perm env hE hash hh (10 * bound env + 1) (Nat.lt_succ_self _)
  rw [drain] at hp
  cases hn : Picker.next env (Picker.new hash) with
  | mk o st =>
    rw [hn] at h hp
    cases (h : o = none)
    exact List.append_eq_nil_iff.1 hp.symm.eq_nil

theorem loud_perm (env : Env) (hE : EnvOk env) (fuel : Nat) (hf : 10 * bound env < fuel) :
    (drain env fuel Picker.newLoud).Perm env.captures :=
  drain_perm hE (inv_newLoud env) (by unfold mu work; simp only [Picker.newLoud, rank]; omega) hE.capsNodup
    fun x => by unfold InP qs; simp [Picker.newLoud]

theorem nodeMoves_eq {g : Game} {nm : Search.NodeMoves} :
    Search.nodeMoves g = some nm ↔
      ∃ cache, generateCaptures g = some (nm.captures, cache) ∧ generateQuiets g cache = some nm.quiets := by
  unfold Search.nodeMoves
  simp only [bind, Option.bind_eq_some_iff, pure, Option.some.injEq]
  constructor
  · rintro ⟨⟨caps, cache⟩, hc, quiets, hq, rfl⟩
    exact ⟨cache, hc, hq⟩
  · rintro ⟨cache, hc, hq⟩
    exact ⟨_, hc, _, hq, rfl⟩

theorem envOk_of_generate (T : SliderTables) (g : Game) (k : Sq) (h : PosH g k) (nm : Search.NodeMoves)
    (hnm : Search.nodeMoves g = some nm) (c : Search.Ctx) (plies : Nat) :
    EnvOk (Search.pickerEnv g nm c plies) := by
  obtain ⟨cache, hc, hq⟩ := nodeMoves_eq.1 hnm
  exact envOk_iff_nodup.2 (generate_nodup T g k h _ cache _ hc hq)

theorem picker_stream_legal (T : SliderTables) (g : Game) (k : Sq) (h : PosH g k) (nm : Search.NodeMoves)
    (hnm : Search.nodeMoves g = some nm) (c : Search.Ctx) (plies : Nat) (hash : Option Move)
    (hh : ∀ m, hash = some m → m ∈ Rules.legalMoves (Rules.ofGame g))
    (fuel : Nat) (hf : 10 * bound (Search.pickerEnv g nm c plies) < fuel) :
    (drain (Search.pickerEnv g nm c plies) fuel (Picker.new hash)).Perm (nm.captures ++ nm.quiets) ∧
    (nm.captures ++ nm.quiets).Nodup ∧
    ∀ m, m ∈ nm.captures ++ nm.quiets ↔ m ∈ Rules.legalMoves (Rules.ofGame g) := by
  have hE := envOk_of_generate T g k h nm hnm c plies
  obtain ⟨cache', hc, hq⟩ := nodeMoves_eq.1 hnm
  obtain ⟨caps, cache, quiets, h1, h2, h3⟩ := Tcheran.generate_exact T g k h
  rw [hc] at h1; cases h1
  rw [hq] at h2; cases h2
  exact ⟨picker_perm _ hE hash (fun m hm => List.mem_append.1 ((h3 m).2 (hh m hm))) fuel hf,
    envOk_iff_nodup.1 hE, h3⟩

/-- **C10, captures-only variant over the composed models**: in every position the stream of the captures-only
picker is duplicate-free, consists of legal moves, and contains **every legal capture** (en passant and capturing
promotions included) **and every queen promotion** -/
theorem loud_stream_complete (T : SliderTables) (g : Game) (k : Sq) (h : PosH g k) (nm : Search.NodeMoves)
    (hnm : Search.nodeMoves g = some nm) (c : Search.Ctx) (plies : Nat)
    (fuel : Nat) (hf : 10 * bound (Search.pickerEnv g nm c plies) < fuel) :
    (drain (Search.pickerEnv g nm c plies) fuel Picker.newLoud).Nodup ∧
    (∀ m ∈ drain (Search.pickerEnv g nm c plies) fuel Picker.newLoud, m ∈ Rules.legalMoves (Rules.ofGame g)) ∧
    (∀ m ∈ Rules.legalMoves (Rules.ofGame g), (m.isCapture = true ∨ m.flag = .promoQ) →
      m ∈ drain (Search.pickerEnv g nm c plies) fuel Picker.newLoud) := by
  have hE := envOk_of_generate T g k h nm hnm c plies
  have hp := loud_perm _ hE fuel hf
  obtain ⟨cache', hc, hq⟩ := nodeMoves_eq.1 hnm
  obtain ⟨caps, cache, quiets, h1, h2, hall, hleg⟩ := Tcheran.loud_complete T g k h
  rw [hc] at h1; cases h1
  refine ⟨hp.nodup_iff.2 hE.capsNodup, fun m hm => hleg m (hp.mem_iff.1 hm), fun m hm hl => ?_⟩
  exact hp.mem_iff.2 (hall m hm hl)

theorem drain_stable (env : Env) (hE : EnvOk env) : ∀ (f1 f2 : Nat) (st : State), Inv env st →
    mu env st < f1 → mu env st < f2 → drain env f1 st = drain env f2 st := by
  intro f1
  induction f1 with
  | zero => intro _ _ _ h; omega
  | succ n ih =>
    intro f2 st hinv h1 h2
    cases f2 with
    | zero => omega
    | succ m =>
      have hn := next_ok env hE st hinv
      unfold drain
      generalize next env st = p at hn
      obtain ⟨o, st'⟩ := p
      cases o with
      | none => rfl
      | some mv =>
        simp only at hn ⊢
        have := hn.mu_lt
        rw [ih m st' hn.inv (by omega) (by omega)]

theorem next_after_done (env : Env) (st : State) (h : st.stage = .done) : next env st = (none, st) := by
  unfold next sBest sGenCaptures sGoodCaptures sGenQuiets sKiller1 sKiller2 sCounter sBadCaptures sScoreQuiets sQuiets
  simp only [h, reduceCtorEq, ↓reduceIte, bind, Except.bind]

/-- non-vacuity: a concrete environment with a hash move that is a bad capture, a killer equal to the
counter move and a killer that is not a generated move meets the hypotheses -/
def demoEnv : Env :=
  { captures := [⟨12, 21, .capture⟩, ⟨12, 19, .capture⟩], quiets := [⟨12, 20, .quiet⟩, ⟨12, 28, .quiet⟩, ⟨6, 22, .quiet⟩],
    scoreTactical := fun m => if m.dst.val = 21 then -5 else goodCaptureScore + 7, scoreQuiet := fun m => m.dst.val,
    killer1 := some ⟨6, 22, .quiet⟩, killer2 := some ⟨1, 18, .quiet⟩, counter := some ⟨6, 22, .quiet⟩ }

example : EnvOk demoEnv := ⟨by simp [demoEnv], by simp [demoEnv], by simp [demoEnv]⟩
example : (⟨12, 21, .capture⟩ : Move) ∈ demoEnv.captures ∨ (⟨12, 21, .capture⟩ : Move) ∈ demoEnv.quiets := by
  simp [demoEnv]

end Tcheran.Props.C10
#print axioms Tcheran.Props.C10.inv_new
#print axioms Tcheran.Props.C10.inv_newLoud
#print axioms Tcheran.Props.C10.nodeMoves_eq
#print axioms Tcheran.Props.C10.envOk_of_generate
#print axioms Tcheran.Props.C10.picker_stream_legal
#print axioms Tcheran.Props.C10.picker_perm
#print axioms Tcheran.Props.C10.first_none_empty
#print axioms Tcheran.Props.C10.loud_perm
#print axioms Tcheran.Props.C10.drain_stable
#print axioms Tcheran.Props.C10.next_after_done
#print axioms Tcheran.Props.C10.loud_stream_complete
