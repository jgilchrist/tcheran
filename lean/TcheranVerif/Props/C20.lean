import TcheranVerif.Model.See
import TcheranVerif.Proofs.SeeMirror
import TcheranVerif.Proofs.SeeSwap
import TcheranVerif.Proofs.SeeKing
import TcheranVerif.Props.C07
/-!
# C20 — static exchange evaluation at threshold 0

Theorems over the exact model of `see` (`Model/See.lean`, piece values regenerated from `/repo`):
* `values_ordered` — the value table is monotone in the kind order the attacker loop uses
  (pawn ≤ knight = bishop ≤ rook ≤ queen ≤ king), so "least valuable attacker first" is what the
  kind loop implements; all capturable values are positive;
* `loop_no_defenders` — if the opponent has no attacker of the target square the exchange ends at
  once with the running score unchanged;
* `see_undefended` — hence a capture (or capturing promotion) of an undefended man is favourable
  exactly when its material gain is non-negative, which it always is;
* `loop_stops_when_ahead` — the mover, when on move with a non-negative running score, stops.
* `see_good_trade` — "victim worth at least the attacker ⇒ favourable", defended or not: after the first
  capture the mover is ahead by at least the value of its own man, so the opponent's recapture leaves a
  non-negative score and the mover then stands pat (`loop_good_trade`).
* **`see_mirror`** — colour-swap invariance, for **every** board (no legality needed), move and threshold: the
  verdict on `Move.mirror mv` in `Game.mirror g` is the verdict on `mv` in `g`. By simulation over the
  loop (`Proofs/SeeMirror.loop_mirror`); the x-ray refreshes commute with the flip through C07's ray-walk
  equality; the choice among equally valued attackers commutes because it is colour-relative
  (`tie_break_mirror`; a choice by raw square index for both colours would not commute, see the last `example`).
  The correspondence stream checks that the second position of each request pair is `Game.mirror` of the first.
* **`see_swaplist`** — the loop keeps one running score and stops early; it never builds a swap list. For every
  board and every capture of a man other than a king, whenever `see` answers at threshold zero its verdict is
  `0 ≤ gain − swapAbs capturers placed`: the classical swap list, played out in full over the successive
  capturers and folded from the back with "capturing is optional", using the same values. (`Proofs/SeeSwap`:
  at threshold zero the running score is never zero when the opponent is to capture, because every capturable
  value is an odd multiple of 100 and a king that captures is never captured; with an even value in the table, or
  another threshold, `≤` in the engine's stop test would be wrong, see the `example` below.) `capturers` is the sequence the model's own
  bitboard bookkeeping produces (least valuable attacker, x-ray refresh, king rule); that it is the sequence an
  independent mailbox computation produces on tie-free positions is decided by the `see` stream (implementation
  vs. `See.swapValue`): that part stays partial. `king_first_capture` discharges the hypothesis about a king
  making the first capture for every king capture the generator emits; `spec_is_swaplist` shows the mailbox
  computation is the same fold.
-/
namespace Tcheran.Props.C20
open Tcheran Tcheran.See

theorem values : Gen.seeValues = #[100, 300, 300, 500, 900, 10000] := by decide

theorem values_ordered :
    pieceValue .pawn ≤ pieceValue .knight ∧ pieceValue .knight = pieceValue .bishop ∧
    pieceValue .bishop ≤ pieceValue .rook ∧ pieceValue .rook ≤ pieceValue .queen ∧
    pieceValue .queen ≤ pieceValue .king ∧ 0 < pieceValue .pawn := by decide

theorem value_pos (k : PieceKind) : 0 < pieceValue k := by cases k <;> decide

theorem loop_no_defenders (b : Board) (mover : Player) (to : Sq) (fuel : Nat) (st : St)
    (hcol : st.color = mover) (hnone : st.attackers &&& b.occFor mover.other = 0#64) :
    loop b mover to (fuel + 1) st = some st.score := by
  rw [loop]
  -- whether or not the opponent is content with the score
  simp only [hcol, hnone, if_true, ite_self]

theorem loop_stops_when_ahead (b : Board) (mover : Player) (to : Sq) (fuel : Nat) (st : St)
    (hcol : st.color = mover.other) (hs : 0 ≤ st.score) : loop b mover to (fuel + 1) st = some st.score := by
  rw [loop]
  simp only [hcol, other_other, hs, and_self, true_or, if_true]

theorem see_undefended (g : Game) (mv : Move) (moved captured : Piece)
    (hsrc : g.board.pieceAt mv.src = some moved) (hdst : g.board.pieceAt mv.dst = some captured)
    (hnep : mv.isEnPassant = false)
    (hundef : (allAttackersOf g.board mv.dst ((g.board.occupancy ^^^ bb mv.src) ||| bb mv.dst)
        &&& ((g.board.occupancy ^^^ bb mv.src) ||| bb mv.dst)) &&& g.board.occFor g.player.other = 0#64) :
    see g mv 0 = some true := by
  rw [see_eq_loop g mv 0 moved _ hsrc (occAfter_plain g mv hnep),
    loop_no_defenders g.board g.player mv.dst 63 _ rfl hundef]
  have := value_pos captured.kind
  have := gain_ge g mv captured hdst
  simp only [Option.map_some, Option.some.injEq, decide_eq_true_eq]
  omega

theorem loop_good_trade (b : Board) (mover : Player) (to : Sq) (fuel : Nat) (st : St) (r : Int)
    (hcol : st.color = mover) (hpos : 0 < st.score) (hge : pieceValue st.victim ≤ st.score)
    (h : loop b mover to fuel st = some r) : 0 ≤ r := by
  rw [loop_trace b mover to fuel st r h, hcol, decide_eq_true (other_ne mover)]
  exact loopAbs_ahead _ _ _ hpos hge

theorem see_good_trade (g : Game) (mv : Move) (moved captured : Piece) (r : Bool)
    (hsrc : g.board.pieceAt mv.src = some moved) (hdst : g.board.pieceAt mv.dst = some captured)
    (hnep : mv.isEnPassant = false) (hnp : mv.promotion = none)
    (hval : pieceValue moved.kind ≤ pieceValue captured.kind) (h : see g mv 0 = some r) : r = true := by
  rw [see_eq_loop g mv 0 moved _ hsrc (occAfter_plain g mv hnep)] at h
  obtain ⟨v, hl, rfl⟩ := Option.map_eq_some_iff.1 h
  have := value_pos captured.kind
  have := gain_ge g mv captured hdst
  exact decide_eq_true (loop_good_trade g.board g.player mv.dst 64 _ v rfl (by simp only; omega)
    (by simp only [initSt, placed, hnp]; omega) hl)

theorem gain_odd (g : Game) (mv : Move)
    (hcap : ∀ pc, g.board.pieceAt mv.dst = some pc → pc.kind ≠ .king)
    (hep : g.board.pieceAt mv.dst = none → mv.isEnPassant = true) : gain g mv % 200 = 100 := by
  unfold gain
  have hpawn := value_odd .pawn (by decide)
  have hpr (pr : Promo) := value_odd pr.piece (by cases pr <;> decide)
  cases hd : g.board.pieceAt mv.dst with
  | none =>
    simp only [hep hd, if_true]
    cases mv.promotion with
    | none => simp only; omega
    | some pr => have := hpr pr; simp only; omega
  | some pc =>
    have := value_odd pc.kind (hcap pc hd)
    cases mv.promotion with
    | none => simp only; omega
    | some pr => have := hpr pr; simp only; omega

/-- `hcap`, `hep`: a capture of a man other than a king, e.p. and promotions included; `hking`: a king that makes
the first capture must not be capturable, as after every legal king move (`king_first_capture`) -/
theorem see_swaplist (g : Game) (mv : Move) (moved : Piece) (occ : BB) (r : Bool)
    (hsrc : g.board.pieceAt mv.src = some moved) (hocc : occAfter g mv = some occ)
    (hcap : ∀ pc, g.board.pieceAt mv.dst = some pc → pc.kind ≠ .king)
    (hep : g.board.pieceAt mv.dst = none → mv.isEnPassant = true)
    (hking : moved.kind = .king →
      (allAttackersOf g.board mv.dst occ &&& occ) &&& g.board.occFor g.player.other = 0#64)
    (h : see g mv 0 = some r) :
    r = decide (0 ≤ gain g mv - swapAbs (capturers g mv moved occ) (pieceValue (placed moved mv))) := by
  rw [see_eq_loop g mv 0 moved occ hsrc hocc, Int.sub_zero] at h
  obtain ⟨final, hl, rfl⟩ := Option.map_eq_some_iff.1 h
  refine decide_eq_decide.2 (loop_swaplist _ _ _ _ (initSt g mv moved occ) final rfl (gain_odd g mv hcap hep)
    (fun hk => hking ?_) hl)
  -- the man on the square is a king: then it is the king that has moved, no pawn promotes to one
  simp only [initSt, placed] at hk
  cases hp : mv.promotion with
  | none => rw [hp] at hk; exact hk
  | some pr => rw [hp] at hk; cases pr <;> cases hk

/-- what the generator has checked before it emits a king capture (`generate_king_captures`) -/
theorem kingCaptures_safe (g : Game) (king : Sq) (theirs : BB) (m : Move) (h : m ∈ Gen.kingCaptures g king theirs) :
    m.src = king ∧ m.isEnPassant = false ∧ attackersOf (g.board.removeAt king) g.player m.dst = 0#64 := by
  unfold Gen.kingCaptures at h
  simp only [List.mem_flatMap] at h
  obtain ⟨d, _, hm⟩ := h
  split at hm
  · rename_i hz
    simp only [List.mem_singleton] at hm
    subst hm
    refine ⟨rfl, rfl, ?_⟩
    show attackersOf (g.board.removeAt king) g.player d = 0#64
    simpa using hz
  · cases hm

/-- `hking` of `see_swaplist`: the generator's test (`kingCaptures_safe`: no attacker of the target on the board with
the king lifted) says that, with the occupancy `see` uses, no man of the opponent attacks the target -/
theorem king_first_capture (g : Game) (mv : Move) (occ : BB) (pd : Piece) (hc : Board.Consistent g.board)
    (hsrc : g.board.pieceAt mv.src = some ⟨.king, g.player⟩) (hocc : occAfter g mv = some occ)
    (hnep : mv.isEnPassant = false) (hd : g.board.pieceAt mv.dst = some pd) (hpd : pd.player = g.player.other)
    (hsafe : attackersOf (g.board.removeAt mv.src) g.player mv.dst = 0#64) :
    (allAttackersOf g.board mv.dst occ &&& occ) &&& g.board.occFor g.player.other = 0#64 := by
  rw [occAfter_plain g mv hnep] at hocc
  cases hocc
  exact king_capture_safe g.board hc g.player mv.src mv.dst pd hsrc hd hpd hsafe

/-- every king capture the generator emits is judged favourable: its own test says the target is undefended -/
theorem see_king_capture (g : Game) (hc : Board.Consistent g.board) (king : Sq) (theirs : BB) (m : Move) (pd : Piece)
    (hm : m ∈ Gen.kingCaptures g king theirs) (hk : g.board.pieceAt king = some ⟨.king, g.player⟩)
    (hd : g.board.pieceAt m.dst = some pd) (hpd : pd.player = g.player.other) : see g m 0 = some true := by
  obtain ⟨hs, hnep, hsafe⟩ := kingCaptures_safe g king theirs m hm
  subst hs
  exact see_undefended g m ⟨.king, g.player⟩ pd hk hd hnep
    (king_capture_safe g.board hc g.player m.src m.dst pd hk hd hpd hsafe)

/-- `See.swapValue`, which the `see` stream compares against, is the fold `swapAbs` over the capturers *it* finds
on the mailbox board (`See.seq`): left to the stream is that the two sequences agree on tie-free positions -/
theorem spec_is_swaplist (p : Rules.Pos) (m : Move) (moved : Piece) (h : Rules.at' p.board m.src = some moved) :
    (swapValue p m).map (·.1) = some
      (((Rules.at' p.board m.dst).map (fun pc => pieceValue pc.kind) |>.getD 0) +
        (match m.promotion with | some pr => pieceValue pr.piece - pieceValue .pawn | none => 0) -
        swapAbs (seq m.dst 40
          (Rules.setSq (Rules.setSq p.board m.src none) m.dst
            (some ⟨(match m.promotion with | some pr => pr.piece | none => moved.kind), p.player⟩)) p.player.other)
          (pieceValue (match m.promotion with | some pr => pr.piece | none => moved.kind))) := by
  unfold swapValue
  rw [h]
  simp only [Option.map_some, Option.some.injEq]
  rw [← swap_is_swapAbs]
  cases m.promotion <;> rfl

/-- why the parity matters: once the running score can be zero with the opponent to capture, the engine's stop test
(`≤` for the opponent) and the swap list part ways: running score 0, the opponent to capture a man worth 300 for free -/
example : (0 ≤ loopAbs [100] true 0 300) ∧ ¬ (0 ≤ (0 : Int) - swapAbs [100] 300) := by decide

/-- non-vacuity of `abs_agree`: pawn takes pawn, pawn retakes, knight retakes, nothing else — and a losing line:
queen takes a pawn defended by a pawn -/
example : Good [100, 300] 100 ∧ (0 ≤ loopAbs [100, 300] true 100 100) ∧ (0 ≤ (100 : Int) - swapAbs [100, 300] 100) :=
  ⟨⟨by decide, by decide, trivial⟩, by decide, by decide⟩
example : Good [100] 900 ∧ ¬ (0 ≤ loopAbs [100] true 100 900) ∧ ¬ (0 ≤ (100 : Int) - swapAbs [100] 900) :=
  ⟨⟨by decide, trivial⟩, by decide, by decide⟩

example : pieceValue .queen = 900 := by decide

/-- with the engine's own slider tables, which are the ray walks (`Props.C07`) -/
theorem see_mirror (c : Cfg) (g : Game) (mv : Move) (thr : Int) :
    see (Game.mirror c g) mv.mirror thr = see g mv thr :=
  Tcheran.See.see_mirror ⟨Props.C07.rook_table_geometric, Props.C07.bishop_table_geometric⟩ c g mv thr

theorem tie_break_mirror (color : Player) (X : BB) :
    pickSquare color.other (BB.flipV X) = (pickSquare color X).map Sq.flip :=
  pickSquare_mirror color X

/-- why the choice is colour-relative: choosing by raw square index for both colours does **not** commute with the
mirror (two candidates on a2 and c4: White takes a2; a raw-index choice for Black in the mirrored position
takes c5, the image of c4, instead of a7) -/
example : BB.lsbSq? (BB.flipV (bb ⟨8, by decide⟩ ||| bb ⟨26, by decide⟩)) ≠
    (BB.lsbSq? (bb ⟨8, by decide⟩ ||| bb ⟨26, by decide⟩)).map Sq.flip := by decide +kernel

end Tcheran.Props.C20
#print axioms Tcheran.Props.C20.values
#print axioms Tcheran.Props.C20.values_ordered
#print axioms Tcheran.Props.C20.value_pos
#print axioms Tcheran.Props.C20.loop_no_defenders
#print axioms Tcheran.Props.C20.loop_stops_when_ahead
#print axioms Tcheran.Props.C20.see_undefended
#print axioms Tcheran.Props.C20.loop_good_trade
#print axioms Tcheran.Props.C20.see_good_trade
#print axioms Tcheran.Props.C20.see_mirror
#print axioms Tcheran.Props.C20.tie_break_mirror
#print axioms Tcheran.Props.C20.gain_odd
#print axioms Tcheran.Props.C20.see_swaplist
#print axioms Tcheran.Props.C20.spec_is_swaplist
#print axioms Tcheran.Props.C20.kingCaptures_safe
#print axioms Tcheran.Props.C20.king_first_capture
#print axioms Tcheran.Props.C20.see_king_capture
