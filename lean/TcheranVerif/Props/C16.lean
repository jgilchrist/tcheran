import TcheranVerif.Model.Eval
import TcheranVerif.Model.Rules
import TcheranVerif.Proofs.EvalBound
import TcheranVerif.Proofs.Mirror
import TcheranVerif.Proofs.MenCount
import TcheranVerif.Props.C01
/-!
# C16 — evaluation: proper blend, packed representation, table-level colour symmetry

* `blend_between` / `blend_total` — for every representable (mg, eg) pair and every phase ≥ 0 the
  blend is defined (no `i16::try_from` panic) and lies between the two assessments; the weights are
  `min phase 24` and `24 - min phase 24`, both non-negative (`weights_nonneg`).
* `Eval.midgame_of_pack` / `Eval.endgame_of_pack` (`Proofs/EvalBlend.lean`) — the packed `i32` representation returns
  what was packed.
* `pst_mirror`, `passed_pst_mirror`, `passed_mask_mirror` — the colour symmetry of every table the
  evaluation reads: for the piece-square and passed-pawn values by construction (White reads the table at the
  rank-flipped index, Black negates: `whiteIdx_eq`), for the passed-pawn masks decided by the kernel (64 squares).
* **`eval_bounded`** — for every legal position (the decidable `legalPos`: one king a side, at most
  sixteen men a side, …) whose board views agree and whose accumulators are in step with the board (C02,
  C15), the evaluation **completes** — every mobility / king-attack table index is in range, the packed
  middlegame and endgame sums stay inside `i16` so their extraction is exact, `i16::try_from` succeeds — and
  its value lies **strictly inside** (−31,900, 31,900), the range reserved for non-mate scores; in fact
  within ±31,130. Promoted pieces included: the bound uses only "at most fifteen men besides the king".
  (`Proofs/EvalBound.lean`: class bounds × number of men, the class bounds checked against the regenerated
  tables by the kernel.) `SliderTables` (C07) bounds the slider popcounts.
* **`eval_mirror`** — for every such position the evaluation of `Game.mirror` (every man on the rank-flipped
  square with the other colour, other side to move, rights swapped, e.p. target flipped) seen from its side
  to move **equals** the evaluation of the position. `Proofs/Mirror.lean` shows each term changes sign:
  slider attack sets commute with the flip through C07's ray-walk equality, leaper sets through the shifts
  that build them (`Proofs/MirrorBits.lean`), the king-safety lookup needs the one-king hypothesis, the blend
  is odd because truncating division is. The correspondence stream checks that
  the second position of each pair the implementation is run on is exactly `Game.mirror` of the first.
* **`eval_along_game`** — both at every position of every game of legal moves from a legal start
  (`Proofs/MenCount.lean`: a legal move never increases the number of men of a colour).
-/
namespace Tcheran.Props.C16
open Tcheran Tcheran.Eval

theorem weights_nonneg (phase : Int) (h : 0 ≤ phase) :
    0 ≤ min phase Gen.phaseCountMax ∧ 0 ≤ Gen.phaseCountMax - min phase Gen.phaseCountMax ∧
    min phase Gen.phaseCountMax + (Gen.phaseCountMax - min phase Gen.phaseCountMax) = 24 := by
  rw [phaseMax24]; omega

theorem blend_between (mg eg phase v : Int) (hmg : -32768 ≤ mg ∧ mg ≤ 32767) (hph : 0 ≤ phase)
    (h : forPhase (pack mg eg) phase = some v) : min mg eg ≤ v ∧ v ≤ max mg eg := by
  rw [forPhase_pack mg eg phase hmg.1 hmg.2] at h
  split at h
  · cases h; exact blend_in mg eg phase hph
  · cases h

theorem blend_total (mg eg phase : Int) (hmg : -32768 ≤ mg ∧ mg ≤ 32767) (heg : -32768 ≤ eg ∧ eg ≤ 32767)
    (hph : 0 ≤ phase) : ∃ v, forPhase (pack mg eg) phase = some v :=
  ⟨_, forPhase_some mg eg phase hmg heg hph⟩

theorem pst_mirror : ∀ k ∈ PieceKind.all, ∀ s : Sq, pst .black k (Sq.flip s) = -(pst .white k s) :=
  fun k _ s => pst_flip .white k s

theorem passed_pst_mirror : ∀ s : Sq, passedPst .black (Sq.flip s) = -(passedPst .white s) :=
  passedPst_flip .white

theorem passed_mask_mirror : ∀ s : Sq, passedMask .black (Sq.flip s) = BB.flipV (passedMask .white s) :=
  passedMask_flip_white

theorem eval_bounded (T : SliderTables) (g : Game) (hc : Board.Consistent g.board)
    (hl : Rules.legalPos (Rules.ofGame g) = true) (hinc : g.inc = Game.incInit theCfg g.board) :
    ∃ v, Eval.eval g = some v ∧ -31900 < v ∧ v < 31900 :=
  let ⟨v, hv, b1, b2, _⟩ := eval_of_legal T g hc hl hinc
  ⟨v, hv, b1, b2⟩

/-- the same from the counts alone (any number of promoted pieces among at most sixteen men a side) -/
theorem eval_bounded_counts (T : SliderTables) (g : Game) (hc : Board.Consistent g.board)
    (hinc : g.inc = Game.incInit theCfg g.board)
    (hKw : cnt g.board (isK .white) sqs = 1) (hKb : cnt g.board (isK .black) sqs = 1)
    (hW : cnt g.board (isP .white) sqs + cnt g.board (isO .white) sqs + cnt g.board (isK .white) sqs ≤ 16)
    (hB : cnt g.board (isP .black) sqs + cnt g.board (isO .black) sqs + cnt g.board (isK .black) sqs ≤ 16) :
    ∃ v, Eval.eval g = some v ∧ -31130 ≤ v ∧ v ≤ 31130 :=
  eval_total_bounded T g ⟨hc, hinc, fun | .white => hKw | .black => hKb, fun | .white => hW | .black => hB⟩

theorem eval_mirror (T : SliderTables) (g : Game) (hc : Board.Consistent g.board)
    (hl : Rules.legalPos (Rules.ofGame g) = true) (hinc : g.inc = Game.incInit theCfg g.board) :
    Eval.eval (Game.mirror theCfg g) = Eval.eval g := by
  obtain ⟨v, hv, _, _, hm⟩ := eval_of_legal T g hc hl hinc
  rw [hv, hm]

/-- the same with the engine's own tables (C07 discharged) and from the counts alone -/
theorem eval_mirror_tables (g : Game) (hc : Board.Consistent g.board)
    (hinc : g.inc = Game.incInit theCfg g.board)
    (hKw : cnt g.board (isK .white) sqs = 1) (hKb : cnt g.board (isK .black) sqs = 1)
    (hW : cnt g.board (isP .white) sqs + cnt g.board (isO .white) sqs + cnt g.board (isK .white) sqs ≤ 16)
    (hB : cnt g.board (isP .black) sqs + cnt g.board (isO .black) sqs + cnt g.board (isK .black) sqs ≤ 16) :
    Eval.eval (Game.mirror theCfg g) = Eval.eval g :=
  eval_mirror_counts C01.sliderTables g
    ⟨hc, hinc, fun | .white => hKw | .black => hKb, fun | .white => hW | .black => hB⟩

theorem eval_along_game (g0 : Game) (ms : List Move) (pos' : Rules.Pos) (hs : Sync theCfg g0)
    (hl : Rules.legalPos (Rules.ofGame g0) = true) (hp : LegalPath (Rules.ofGame g0) ms pos') :
    ∃ g', makeMoves theCfg g0 ms = some g' ∧ Rules.ofGame g' = pos' ∧
      ∃ v, Eval.eval g' = some v ∧ -31900 < v ∧ v < 31900 ∧ Eval.eval (Game.mirror theCfg g') = some v :=
  Tcheran.eval_along_game C01.sliderTables g0 ms pos' hs hl hp

/-- the mirrored position satisfies the hypotheses of every theorem stated for consistent boards -/
theorem mirror_involutive (b : Board) : b.mirror.mirror = b := mirror_mirror b
theorem mirror_views_agree (b : Board) (hc : Board.Consistent b) : Board.Consistent b.mirror :=
  mirror_consistent b hc

/-- set meaning of `Bitboard::flip_vertically` for every board -/
theorem flip_vertically_spec (b : BB) (t : Sq) : mem (BB.flipV b) t = mem b t.flip := mem_flipV b t

/-- non-vacuity: `7b/8/8/4Pp2/3K4/8/8/k7 w - -` meets every hypothesis of `eval_mirror`, and so does its mirror
image. The term is that of `C01.demoBoard`, so `C01.demo_consistent` applies to it. -/
def demoBoard : Board :=
  ((((Board.empty.setAt ⟨27, by decide⟩ ⟨.king, .white⟩).setAt ⟨0, by decide⟩ ⟨.king, .black⟩).setAt
    ⟨36, by decide⟩ ⟨.pawn, .white⟩).setAt ⟨37, by decide⟩ ⟨.pawn, .black⟩).setAt ⟨63, by decide⟩ ⟨.bishop, .black⟩
def demoGame : Game := Game.fromState theCfg demoBoard .white Rights.none none 0 0

theorem demo_legal : Rules.legalPos (Rules.ofGame demoGame) = true := by decide +kernel
theorem demo_mirror_legal : Rules.legalPos (Rules.ofGame (Game.mirror theCfg demoGame)) = true := by
  decide +kernel
theorem demo_eval_mirror : Eval.eval (Game.mirror theCfg demoGame) = Eval.eval demoGame :=
  -- the accumulators are `incInit` of the board by definition; `rfl` would evaluate both sides
  eval_mirror C01.sliderTables demoGame C01.demo_consistent demo_legal (by rw [demoGame, Game.fromState])

/-- non-vacuity: a concrete blend -/
example : forPhase (pack 100 200) 20 = some 116 := by decide

end Tcheran.Props.C16
#print axioms Tcheran.Eval.midgame_of_pack
#print axioms Tcheran.Eval.endgame_of_pack
#print axioms Tcheran.Props.C16.weights_nonneg
#print axioms Tcheran.Props.C16.blend_between
#print axioms Tcheran.Props.C16.blend_total
#print axioms Tcheran.Props.C16.pst_mirror
#print axioms Tcheran.Props.C16.passed_pst_mirror
#print axioms Tcheran.Props.C16.passed_mask_mirror
#print axioms Tcheran.Props.C16.eval_bounded
#print axioms Tcheran.Props.C16.eval_bounded_counts
#print axioms Tcheran.Props.C16.eval_mirror
#print axioms Tcheran.Props.C16.eval_mirror_tables
#print axioms Tcheran.Props.C16.mirror_involutive
#print axioms Tcheran.Props.C16.mirror_views_agree
#print axioms Tcheran.Props.C16.flip_vertically_spec
#print axioms Tcheran.Props.C16.demo_legal
#print axioms Tcheran.Props.C16.demo_mirror_legal
#print axioms Tcheran.Props.C16.demo_eval_mirror
#print axioms Tcheran.Props.C16.eval_along_game
