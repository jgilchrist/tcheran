import TcheranVerif.Proofs.Sweep
/-!
# C07 — attack tables equal first-principles geometry

* `slide_spec` — the engine's ray walk equals the square-by-square walk for **every** square and
  **every** one of the 2^64 occupancies (induction on the walk, `Proofs/Attacks.lean`).
* `knight/king/pawn_table_geometric` — the per-square tables equal their coordinate definitions (kernel
  decision over all 64 / 64 / 128 entries); `between_table_geometric` — so does the `between` table, by argument:
  the loop of `generate_squares_between` walks the ray (`genBetween_eq`) and the coordinate definition of
  "between" describes the same squares (`Geo.isBetween_iff`).
* `rook_lookup_exact`, `bishop_lookup_exact` — for every square and every occupancy the magic lookup returns
  exactly the ray walk, and its index lies inside the table. Lifting: index and ray walk depend on the occupancy
  only through the relevant-blocker mask (`*_relevant`), every subset of the mask is enumerated by
  the carry-rippler (`mem_depositList` + the per-square list equality inside the sweep), and the
  sweep over all 107,648 (square, subset) pairs with the magics regenerated from `/repo`.

Trusted base of this file: the kernel only (`propext`, `Classical.choice`, `Quot.sound`). The sweep is decided
by the kernel (`Proofs/Sweep.lean`: `decide +kernel` on a twin of `certOne` over `Nat`, shown to imply it)
against an *untrusted* certificate of the table contents regenerated by the translator (`Gen/MagicCert.lean`); `table_of_cert` (`Proofs/MagicCert.lean`) shows that if every write of
the initialisation is in range and agrees with the certificate, the table it builds returns the ray walk at
the magic index — whatever the order of the writes and however the squares share slots. The project
contains no compiler-trusting decision procedure.
-/
namespace Tcheran.Props.C07
open Tcheran Geometry

theorem slide_spec (dirs : List Dir) (s : Sq) (occ : BB) : slide dirs s occ = slideSpec dirs s occ :=
  slide_eq_spec dirs s occ

theorem slide_spec_mem (dirs : List Dir) (s : Sq) (occ : BB) (t : Sq) :
    mem (slide dirs s occ) t = true ↔ ∃ d ∈ dirs, t ∈ seen (mem occ) (Rules.ray d s) :=
  mem_slide dirs s occ t

theorem knight_table_geometric (s : Sq) : knightAttacks s = knightSpec s := by
  rw [knightAttacks_eq, genKnight_geometric]

theorem king_table_geometric (s : Sq) : kingAttacks s = kingSpec s := by
  rw [kingAttacks_eq, genKing_geometric]

theorem pawn_table_geometric (s : Sq) (p : Player) : pawnAttacks s p = pawnSpec s p := by
  rw [pawnAttacks_eq, genPawn_geometric]

theorem between_table_geometric (a b : Sq) : between a b = betweenSpec a b := by
  rw [between_eq, genBetween_geometric]

theorem sweep_ok :
    (∀ s : Sq, certOne (rookMask s) (rookIndex s) (genRookAttacks s) = true) ∧
    (∀ s : Sq, certOne (bishopMask s) (bishopIndex s) (genBishopAttacks s) = true) :=
  ⟨Sweep.rook_all, Sweep.bishop_all⟩

theorem rook_lookup_exact (s : Sq) (occ : BB) :
    rookAttacks s occ = genRookAttacks s occ ∧ rookIndex s occ < Gen.tableSize := by
  have := (table_of_cert sweep_ok.1 sweep_ok.2).1 s occ
  unfold rookAttacks
  rw [rookIndex_relevant, genRook_relevant]
  exact ⟨this.2, this.1⟩

theorem bishop_lookup_exact (s : Sq) (occ : BB) :
    bishopAttacks s occ = genBishopAttacks s occ ∧ bishopIndex s occ < Gen.tableSize := by
  have := (table_of_cert sweep_ok.1 sweep_ok.2).2 s occ
  unfold bishopAttacks
  rw [bishopIndex_relevant, genBishop_relevant]
  exact ⟨this.2, this.1⟩

theorem rook_table_geometric (s : Sq) (occ : BB) : rookAttacks s occ = rookSpec s occ := by
  rw [(rook_lookup_exact s occ).1]; exact slide_eq_spec _ s occ

theorem bishop_table_geometric (s : Sq) (occ : BB) : bishopAttacks s occ = bishopSpec s occ := by
  rw [(bishop_lookup_exact s occ).1]; exact slide_eq_spec _ s occ

/-- non-vacuity: a blocked rook on a1 (blockers on a3 and c1) sees a2, a3, b1, c1 -/
example : rookSpec A1 (bb ⟨16, by decide⟩ ||| bb C1) = bb ⟨8, by decide⟩ ||| bb ⟨16, by decide⟩ ||| bb B1 ||| bb C1 := by
  decide +kernel

end Tcheran.Props.C07
#print axioms Tcheran.Props.C07.slide_spec
#print axioms Tcheran.Props.C07.slide_spec_mem
#print axioms Tcheran.Props.C07.knight_table_geometric
#print axioms Tcheran.Props.C07.king_table_geometric
#print axioms Tcheran.Props.C07.pawn_table_geometric
#print axioms Tcheran.Props.C07.between_table_geometric
#print axioms Tcheran.Props.C07.sweep_ok
#print axioms Tcheran.Props.C07.rook_lookup_exact
#print axioms Tcheran.Props.C07.bishop_lookup_exact
#print axioms Tcheran.Props.C07.rook_table_geometric
#print axioms Tcheran.Props.C07.bishop_table_geometric
