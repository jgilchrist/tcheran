import TcheranVerif.Proofs.GameInv
import TcheranVerif.Props.C07
/-!
# C01 — legal move generation is exact

Model: `Model/Movegen.lean` (staged bitboard generator: checkers, check mask, pin masks, captures then
quiets) against `Model/Rules.lean` (mailbox; a move is legal iff pseudo-legal and the mover's king is
not attacked afterwards). All statements are for **every** position, not a sample.

* `attackers_exact`, `attacked_verdict` — bit `q` of `generate_attackers_of(board, player, t)` is set
  exactly when the man on `q` attacks `t` under the rules; the set is non-empty iff `t` is attacked.
* `check_verdict` — `Board::king_in_check` agrees with the rules whenever the side has a king.
* `generate_exact` — in every position meeting `PosH` (the side to move has exactly one king, the
  e.p. target and the castling rights are consistent with the placement, the three board views agree)
  both generator stages answer (no panic) and together list exactly the rules' legal moves: same squares,
  same capture / e.p. / castling / promotion label. `generate_exact_legal` derives `PosH` from the decidable
  `legalPos`; `generateLegal_exact` is the same for `generate_legal_moves`,
  whose only other outcome is the 218-move capacity of `MoveList`.
* `generate_nodup` — no move occurs twice in what the two stages return.
* `legal_closed` — the positions satisfying the invariant behind `PosH` (one king a side, the side not to
  move not in check, e.p. target and castling rights consistent with the placement) are closed under the
  legal moves of the rules; `game_generate_exact` — hence at **every position of every game** of legal moves
  from a legal start the generator is exact and duplicate-free, with `make_move` supplying the positions.

The two slider lookups enter through `SliderTables`; the `_tables` corollaries discharge it with
`Props.C07` (the 107,648-case table sweep, decided by the kernel alone).
Not proved: that positions of real games never hold more than 218 legal moves (the `MoveList` capacity).
-/
namespace Tcheran.Props.C01
open Tcheran Tcheran.Board Tcheran.Rules

theorem attackers_exact (T : SliderTables) (b : Board) (hc : Consistent b) (p : Player) (t q : Sq) :
    mem (attackersOf b p t) q = true ↔ AttacksFrom b.squares p.other q t :=
  mem_attackersOf T b hc p t q

theorem attacked_verdict (T : SliderTables) (b : Board) (hc : Consistent b) (p : Player) (t : Sq) :
    attackersOf b p t ≠ 0#64 ↔ attacked b.squares p.other t = true :=
  attackersOf_ne_zero T b hc p t

theorem check_verdict (T : SliderTables) (b : Board) (hc : Consistent b) (p : Player) (k : Sq)
    (hk : kingSq b.squares p = some k) : kingInCheck b p = some (inCheck b.squares p) :=
  kingInCheck_agrees T b hc p k hk

theorem generate_exact (T : SliderTables) (g : Game) (k : Sq) (h : PosH g k) :
    ∃ caps cache quiets, generateCaptures g = some (caps, cache) ∧ generateQuiets g cache = some quiets ∧
      ∀ m, m ∈ caps ++ quiets ↔ m ∈ legalMoves (ofGame g) :=
  Tcheran.generate_exact T g k h

theorem generate_nodup (T : SliderTables) (g : Game) (k : Sq) (h : PosH g k)
    (caps : List Move) (cache : MovegenCache) (quiets : List Move)
    (hcaps : generateCaptures g = some (caps, cache)) (hquiets : generateQuiets g cache = some quiets) :
    (caps ++ quiets).Nodup :=
  Tcheran.generate_nodup T g k h caps cache quiets hcaps hquiets

theorem generate_exact_legal (T : SliderTables) (g : Game) (hc : Consistent g.board)
    (hl : legalPos (ofGame g) = true) :
    ∃ caps cache quiets, generateCaptures g = some (caps, cache) ∧ generateQuiets g cache = some quiets ∧
      ∀ m, m ∈ caps ++ quiets ↔ m ∈ legalMoves (ofGame g) := by
  obtain ⟨k, h⟩ := posH_of_legal g hc hl
  exact Tcheran.generate_exact T g k h

theorem generateLegal_exact (T : SliderTables) (g : Game) (hc : Consistent g.board)
    (hl : legalPos (ofGame g) = true) :
    (∃ ms, generateLegal g = some ms ∧ ∀ m, m ∈ ms ↔ m ∈ legalMoves (ofGame g)) ∨
    (generateLegal g = none ∧ ∃ ms : List Move, ms.length > 218 ∧ ∀ m, m ∈ ms ↔ m ∈ legalMoves (ofGame g)) := by
  obtain ⟨caps, cache, quiets, h1, h2, h3⟩ := generate_exact_legal T g hc hl
  rw [generateLegal_eq g caps quiets cache h1 h2]
  by_cases hlen : (caps ++ quiets).length > 218
  · exact Or.inr ⟨if_pos hlen, caps ++ quiets, hlen, h3⟩
  · exact Or.inl ⟨caps ++ quiets, if_neg hlen, h3⟩

theorem check_verdict_legal (T : SliderTables) (g : Game) (hc : Consistent g.board)
    (hl : legalPos (ofGame g) = true) :
    kingInCheck g.board g.player = some (inCheck g.board.squares g.player) := by
  obtain ⟨k, h⟩ := posH_of_legal g hc hl
  exact kingInCheck_agrees T g.board hc g.player k (kingSq_unique _ _ k h.ctx.king)

theorem legal_closed (pos : Rules.Pos) (m : Move) (h : GInv pos) (hl : m ∈ legalMoves pos) :
    GInv (Rules.apply pos m) := ginv_apply pos m h hl

theorem game_generate_exact (T : SliderTables) (c : Cfg) (g : Game) (ms : List Move) (pos' : Rules.Pos)
    (hc : Consistent g.board) (hl : legalPos (ofGame g) = true) (hp : LegalPath (ofGame g) ms pos') :
    ∃ g', makeMoves c g ms = some g' ∧ ofGame g' = pos' ∧
      ∃ caps cache quiets, generateCaptures g' = some (caps, cache) ∧ generateQuiets g' cache = some quiets ∧
        (caps ++ quiets).Nodup ∧ ∀ m, m ∈ caps ++ quiets ↔ m ∈ legalMoves pos' :=
  Tcheran.game_generate_exact T c g ms pos' hc hl hp

theorem sliderTables : SliderTables :=
  ⟨Tcheran.Props.C07.rook_table_geometric, Tcheran.Props.C07.bishop_table_geometric⟩

theorem generate_exact_tables (g : Game) (hc : Consistent g.board) (hl : legalPos (ofGame g) = true) :
    ∃ caps cache quiets, generateCaptures g = some (caps, cache) ∧ generateQuiets g cache = some quiets ∧
      ∀ m, m ∈ caps ++ quiets ↔ m ∈ legalMoves (ofGame g) :=
  generate_exact_legal sliderTables g hc hl

theorem check_verdict_tables (g : Game) (hc : Consistent g.board) (hl : legalPos (ofGame g) = true) :
    kingInCheck g.board g.player = some (inCheck g.board.squares g.player) :=
  check_verdict_legal sliderTables g hc hl

/-- non-vacuity: `7b/8/8/4Pp2/3K4/8/8/k7 w - f6`, a white pawn pinned on the very diagonal along which it may
capture en passant, meets every hypothesis -/
def demoBoard : Board :=
  ((((Board.empty.setAt ⟨27, by decide⟩ ⟨.king, .white⟩).setAt ⟨0, by decide⟩ ⟨.king, .black⟩).setAt
    ⟨36, by decide⟩ ⟨.pawn, .white⟩).setAt ⟨37, by decide⟩ ⟨.pawn, .black⟩).setAt ⟨63, by decide⟩ ⟨.bishop, .black⟩

def demoGame : Game :=
  { player := .white, board := demoBoard, rights := Rights.none, ep := some ⟨45, by decide⟩, halfmove := 0,
    plies := 0, zobrist := 0#64, inc := default, history := [] }

theorem demo_consistent : Consistent demoBoard := by
  unfold demoBoard
  refine consistent_setAt _ _ _ (consistent_setAt _ _ _ (consistent_setAt _ _ _ (consistent_setAt _ _ _
    (consistent_setAt _ _ _ consistent_empty ?_) ?_) ?_) ?_) ?_ <;> decide +kernel

theorem demo_legal : legalPos (ofGame demoGame) = true := by decide +kernel

end Tcheran.Props.C01
#print axioms Tcheran.Props.C01.attackers_exact
#print axioms Tcheran.Props.C01.attacked_verdict
#print axioms Tcheran.Props.C01.check_verdict
#print axioms Tcheran.Props.C01.generate_exact
#print axioms Tcheran.Props.C01.generate_nodup
#print axioms Tcheran.Props.C01.generate_exact_legal
#print axioms Tcheran.Props.C01.generateLegal_exact
#print axioms Tcheran.Props.C01.check_verdict_legal
#print axioms Tcheran.Props.C01.legal_closed
#print axioms Tcheran.Props.C01.game_generate_exact
#print axioms Tcheran.Props.C01.sliderTables
#print axioms Tcheran.Props.C01.generate_exact_tables
#print axioms Tcheran.Props.C01.check_verdict_tables
#print axioms Tcheran.Props.C01.demo_consistent
#print axioms Tcheran.Props.C01.demo_legal
