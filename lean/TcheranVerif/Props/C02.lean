import TcheranVerif.Props.C03
import TcheranVerif.Model.Rules
import TcheranVerif.Proofs.LegalMoveFacts
import TcheranVerif.Proofs.MakeTotal
import TcheranVerif.Proofs.GameInv
/-!
# C02 — making and unmaking moves is exactly reversible; the three board views never disagree

* `views_agree_*` — `Consistent` (every by-kind / by-colour bitboard is exactly the set of squares
  whose mailbox entry has that kind / colour) holds of the empty board, is kept by
  `set_at` on an empty square and by `remove_at`, hence by `make_move` and along every history.
* `undo_make`, `undo_null` — `undo_move ∘ make_move = id` and `undo_null_move ∘ make_null_move = id`
  as equalities of the **whole** `Game` structure (placement in all three views, side, rights,
  e.p. target, both clocks, key, accumulators, history stack).
* `unwind_path` — any sequence of moves and null moves, taken back in reverse order, returns to the
  position it started from (every make/take-back interleaving of a depth-first search is of this form
  at each node).
* `make_mailbox` — what `make_move` does to the placement for every move but castling.
* `make_refines` — **follows the rules**: whenever `make_move` answers for a move whose mover belongs to
  the side to move (for castling: king moving, rook on its home square), the position it produces is
  `Rules.apply` of the position before: placement, side to move, castling rights, en-passant target (engine
  convention: only with an enemy pawn beside the pushed pawn), halfmove clock and ply counter.
  `make_refines_legal` instantiates it for every legal move.
* `make_move_legal_total` — in every position meeting `PosH` (one king, e.p. target and rights consistent
  with the placement, views in agreement) and for **every** legal move of the rules, `make_move` answers (no
  `unwrap` on an empty square, no missing rook, no square off the board) with exactly `Rules.apply`.
* `game_refines` — the same along every game: from a legal start every position reached by legal moves is
  produced by `make_move`, equals the rules' position, and keeps the three views in agreement.
-/
namespace Tcheran.Props.C02
open Tcheran Board Game Tcheran.Props.C03

theorem views_agree_empty : Board.empty.Consistent := consistent_empty

theorem views_agree_setAt (b : Board) (s : Sq) (pc : Piece) (h : b.Consistent) (he : b.pieceAt s = none) :
    (b.setAt s pc).Consistent := consistent_setAt b s pc h he

theorem views_agree_removeAt (b : Board) (s : Sq) (h : b.Consistent) : (b.removeAt s).Consistent :=
  consistent_removeAt b s h

theorem views_agree_make (c : Cfg) (g g' : Game) (mv : Move) (h : g.board.Consistent) (hok : MoveOk g mv)
    (hr : makeMove c g mv = some g') : g'.board.Consistent :=
  (stepInv_consistent c).makeMove g g' mv h hr hok.castleRoom

theorem views_determined (b1 b2 : Board) (h1 : b1.Consistent) (h2 : b2.Consistent)
    (hs : b1.squares = b2.squares) : b1 = b2 := consistent_ext b1 b2 h1 h2 hs

theorem undo_make (c : Cfg) (g g' : Game) (mv : Move) (hc : g.board.Consistent) (hok : MoveOk g mv)
    (hr : makeMove c g mv = some g') : undoMove g' = some g := Tcheran.undo_make c g g' mv hc hok hr

theorem undo_null (c : Cfg) (g : Game) : undoNull (makeNull c g) = some g := Tcheran.undo_null c g

/-- take back, in reverse order, a list of moves (`some`) and null moves (`none`) -/
def unwind : Game → List (Option Move) → Option Game
  | g, [] => some g
  | g, some _ :: ms => (undoMove g).bind (fun g' => unwind g' ms)
  | g, none :: ms => (undoNull g).bind (fun g' => unwind g' ms)

theorem unwind_append (g : Game) (a b : List (Option Move)) :
    unwind g (a ++ b) = (unwind g a).bind (fun g' => unwind g' b) := by
  induction a generalizing g with
  | nil => rfl
  | cons x xs ih => cases x <;> simp only [List.cons_append, unwind, Option.bind_assoc, ih]

theorem unwind_path (c : Cfg) (g g' : Game) (ms : List (Option Move)) (hc : g.board.Consistent)
    (hp : Path c g ms g') : unwind g' ms.reverse = some g := by
  induction hp with
  | nil g => rfl
  | move g g1 g2 mv ms hok hr _ ih =>
    have c1 := views_agree_make c g g1 mv hc hok hr
    rw [List.reverse_cons, unwind_append, ih c1]
    simp only [Option.bind, unwind]
    rw [Tcheran.undo_make c g g1 mv hc hok hr]
  | null g g2 ms _ ih =>
    have c1 : (makeNull c g).board.Consistent := hc
    rw [List.reverse_cons, unwind_append, ih c1]
    simp only [Option.bind, unwind]
    rw [Tcheran.undo_null c g]

theorem views_agree_along_path (c : Cfg) (g g' : Game) (ms : List (Option Move)) (hc : g.board.Consistent)
    (hp : Path c g ms g') : g'.board.Consistent :=
  path_stepInv c _ (stepInv_consistent c) (fun _ h => h) g g' ms hc hp

theorem make_mailbox (c : Cfg) (g g' : Game) (mv : Move) (hr : makeMove c g mv = some g')
    (hnc : mv.isCastling = false) :
    ∃ moved, g.board.pieceAt mv.src = some moved ∧ g'.player = g.player.other ∧ g'.plies = g.plies + 1 ∧
      ∀ t, g'.board.pieceAt t =
        if mv.isEnPassant = true ∧ mv.dst.backward g.player = some t then none
        else if t = mv.dst then some (Game.placedPiece mv g.player moved)
        else if t = mv.src then none
        else g.board.pieceAt t := by
  obtain ⟨moved, _, b, _, _, hsrc, _, _, hb, _, rfl⟩ := makeMove_eq c g g' mv hr
  refine ⟨moved, hsrc, rfl, rfl, fun t => ?_⟩
  show b.pieceAt t = _
  rw [hb hnc]
  exact pieceAt_piecesBoard _ _ _ _ t

theorem make_refines (c : Cfg) (g g' : Game) (mv : Move) (hc : g.board.Consistent)
    (hr : makeMove c g mv = some g')
    (hown : ∀ M, g.board.pieceAt mv.src = some M → M.player = g.player)
    (hcastle : mv.isCastling = true →
      (∀ M, g.board.pieceAt mv.src = some M → M.kind = .king) ∧
      ∃ rf rt, castleSquares g.player mv.dst = some (rf, rt) ∧ g.board.pieceAt rf = some ⟨.rook, g.player⟩ ∧
        rf ≠ mv.src ∧ rf ≠ mv.dst) :
    Rules.ofGame g' = Rules.apply (Rules.ofGame g) mv :=
  Tcheran.make_refines c g g' mv hc hr hown hcastle

theorem make_refines_legal (c : Cfg) (g g' : Game) (mv : Move) (hc : g.board.Consistent)
    (hl : mv ∈ Rules.legalMoves (Rules.ofGame g)) (hr : makeMove c g mv = some g') :
    Rules.ofGame g' = Rules.apply (Rules.ofGame g) mv :=
  Tcheran.make_refines_legal c g g' mv hc hl hr

theorem make_move_legal_total (c : Cfg) (g : Game) (k : Sq) (h : PosH g k) (mv : Move)
    (hl : mv ∈ Rules.legalMoves (Rules.ofGame g)) :
    ∃ g', makeMove c g mv = some g' ∧ Rules.ofGame g' = Rules.apply (Rules.ofGame g) mv :=
  Tcheran.make_move_legal_total c g k h mv hl

theorem game_refines (c : Cfg) (g : Game) (ms : List Move) (pos' : Rules.Pos) (hc : g.board.Consistent)
    (h : GInv (Rules.ofGame g)) (hp : LegalPath (Rules.ofGame g) ms pos') :
    ∃ g', makeMoves c g ms = some g' ∧ Rules.ofGame g' = pos' ∧ g'.board.Consistent ∧ GInv (Rules.ofGame g') :=
  Tcheran.game_refines c g ms pos' hc h hp

/-- non-vacuity: a quiet knight move from an (otherwise empty) consistent board satisfies `MoveOk` -/
example : MoveOk (Game.fromState theCfg (Board.empty.setAt B1 ⟨.knight, .white⟩) .white Rights.none none 0 0)
    (Move.quiet B1 C3) := by
  refine ⟨fun h => by simp [Move.quiet, Move.promotion] at h, fun h => by simp [Move.quiet, Move.isEnPassant] at h,
    fun h => by simp [Move.quiet, Move.isCastling] at h⟩

end Tcheran.Props.C02
#print axioms Tcheran.Props.C02.views_agree_empty
#print axioms Tcheran.Props.C02.views_agree_setAt
#print axioms Tcheran.Props.C02.views_agree_removeAt
#print axioms Tcheran.Props.C02.views_agree_make
#print axioms Tcheran.Props.C02.views_determined
#print axioms Tcheran.Props.C02.undo_make
#print axioms Tcheran.Props.C02.undo_null
#print axioms Tcheran.Props.C02.unwind_append
#print axioms Tcheran.Props.C02.unwind_path
#print axioms Tcheran.Props.C02.views_agree_along_path
#print axioms Tcheran.Props.C02.make_mailbox
#print axioms Tcheran.Props.C02.make_refines
#print axioms Tcheran.Props.C02.make_refines_legal
#print axioms Tcheran.Props.C02.make_move_legal_total
#print axioms Tcheran.Props.C02.game_refines
