import TcheranVerif.Model.TT
/-!
# C19 — the transposition table never confuses positions and keeps honest statistics

Theorems over `Model/TT.lean` for **every** sequence of operations, key and table size. What `insert`
does is said once (`insert_of_admitted`, `insert_of_not_admitted`), and what a probe sees afterwards
(`get_insert_of_admitted`); the rest is derived from these. `WF` (slot invariant `key % n = i`,
`occupied` = number of occupied slots, 8-bit generation, size bookkeeping) is preserved by every
operation (`wf_*`, `wf_run`); a probe answers only from an entry stored under exactly that key
(`get_sound`), and that entry is the latest admitted insert (`get_insert_admitted`,
`get_insert_rejected`, `get_insert_cases`, `insert_other_key`); the replacement policy is a disjunction
(`shouldOverwrite_iff`) with the four clauses of the property (`policy_*`); `reset`/`resize` empty the
table; the fill indicator is `⌊1000·occupied/n⌋` (the Rust evaluates it in `f32`: ± 1 permille, checked
by correspondence).
-/
namespace Tcheran.Props.C19
open Tcheran Tcheran.TT Std

structure WF (t : Table) : Prop where
  size_ok : t.n = entriesFor t.sizeMb
  slot_ok : ∀ i e, t.slots[i]? = some e → i < t.n ∧ e.key.toNat % t.n = i
  occ_ok : t.occupied = t.slots.size
  gen_ok : t.generation < 256

theorem idx_lt (t : Table) (k : BB) (hn : t.n ≠ 0) : t.idx k < t.n :=
  Nat.mod_lt _ (Nat.pos_of_ne_zero hn)

theorem get_of_slot_none (t : Table) (k : BB) (h : t.slots[t.idx k]? = none) : t.get k = none := by
  unfold Table.get
  split
  · rfl
  · rw [h]

theorem get_sound (t : Table) (k : BB) (d : Data) (hg : t.get k = some d) :
    ∃ e, t.slots[t.idx k]? = some e ∧ e.key = k ∧ e.data = d := by
  unfold Table.get at hg
  split at hg
  · cases hg
  · split at hg
    · rename_i e he
      split at hg
      · rename_i hk
        cases hg
        exact ⟨e, he, hk, rfl⟩
      · cases hg
    · cases hg

def admitted (t : Table) (k : BB) (d : Data) : Prop :=
  t.n ≠ 0 ∧ (t.slots[t.idx k]? = none ∨ ∃ old, t.slots[t.idx k]? = some old ∧ shouldOverwrite old.data d = true)

theorem insert_of_admitted (t : Table) (k : BB) (d : Data) (h : admitted t k d) :
    t.insert k d = { t with slots := t.slots.insert (t.idx k) ⟨k, d⟩,
                            occupied := if t.idx k ∈ t.slots then t.occupied else t.occupied + 1 } := by
  obtain ⟨hn, hs⟩ := h
  unfold Table.insert
  rw [if_neg hn]
  rcases hs with hnone | ⟨old, hold, hov⟩
  · have : ¬ t.idx k ∈ t.slots := by rw [HashMap.mem_iff_isSome_getElem?, hnone]; simp
    simp only [hnone, if_neg this]
  · have : t.idx k ∈ t.slots := by rw [HashMap.mem_iff_isSome_getElem?, hold]; rfl
    simp only [hold, hov, if_true, if_pos this]

theorem insert_of_not_admitted (t : Table) (k : BB) (d : Data) (h : ¬ admitted t k d) : t.insert k d = t := by
  unfold Table.insert
  split
  · rfl
  · rename_i hn
    simp only
    split
    · rename_i old hold
      split
      · rename_i hov
        exact absurd ⟨hn, Or.inr ⟨old, hold, hov⟩⟩ h
      · rfl
    · rename_i hnone
      exact absurd ⟨hn, Or.inl hnone⟩ h

theorem get_insert_rejected (t : Table) (k : BB) (d : Data) (old : Entry)
    (hold : t.slots[t.idx k]? = some old) (hrej : shouldOverwrite old.data d = false) :
    t.insert k d = t := by
  refine insert_of_not_admitted t k d fun h => ?_
  rcases h.2 with hnone | ⟨old', hold', hov⟩
  · rw [hold] at hnone; cases hnone
  · rw [hold] at hold'; cases hold'
    rw [hrej] at hov; cases hov

theorem get_insert_of_admitted (t : Table) (k k' : BB) (d : Data) (h : admitted t k d) :
    (t.insert k d).get k' = if t.idx k = t.idx k' then (if k = k' then some d else none) else t.get k' := by
  rw [insert_of_admitted t k d h]
  unfold Table.get
  simp only [if_neg h.1, Table.idx, HashMap.getElem?_insert, beq_iff_eq]
  by_cases hi : k.toNat % t.n = k'.toNat % t.n
  · simp only [if_pos hi]
  · simp only [if_neg hi]

theorem get_insert_admitted (t : Table) (k : BB) (d : Data) (h : admitted t k d) :
    (t.insert k d).get k = some d := by
  rw [get_insert_of_admitted t k k d h, if_pos rfl, if_pos rfl]

theorem get_insert_cases (t : Table) (k k' : BB) (d x : Data) (hg : (t.insert k d).get k' = some x) :
    (k' = k ∧ x = d) ∨ t.get k' = some x := by
  by_cases h : admitted t k d
  · rw [get_insert_of_admitted t k k' d h] at hg
    split at hg
    · split at hg
      · rename_i hk
        exact Or.inl ⟨hk.symm, (Option.some.inj hg).symm⟩
      · cases hg
    · exact Or.inr hg
  · rw [insert_of_not_admitted t k d h] at hg
    exact Or.inr hg

/-- an insert never makes data appear under a different key -/
theorem insert_other_key (t : Table) (k k' : BB) (d x : Data) (hne : k' ≠ k)
    (hg : (t.insert k d).get k' = some x) : t.get k' = some x :=
  (get_insert_cases t k k' d x hg).resolve_left fun h => hne h.1

/-- `should_overwrite_with`: the new entry comes from another search, or is deeper, or is exact, or the old one is
    not exact -/
theorem shouldOverwrite_iff (old new : Data) :
    shouldOverwrite old new = true ↔
      new.age ≠ old.age ∨ new.depth > old.depth ∨ new.bound = .exact ∨ old.bound ≠ .exact := by
  unfold shouldOverwrite
  split
  · simp [*]
  · split
    · simp [*]
    · split <;> simp [*]

/-- entries from earlier searches always give way -/
theorem policy_stale (old new : Data) (h : new.age ≠ old.age) : shouldOverwrite old new = true :=
  (shouldOverwrite_iff old new).2 (.inl h)

/-- within one search an exact result is displaced only by another exact result or a deeper one -/
theorem policy_exact_kept (old new : Data) (hage : new.age = old.age) (hold : old.bound = .exact)
    (hnew : new.bound ≠ .exact) (hdepth : new.depth ≤ old.depth) : shouldOverwrite old new = false := by
  refine Bool.eq_false_iff.2 fun hs => ?_
  rcases (shouldOverwrite_iff old new).1 hs with h | h | h | h
  · exact h hage
  · exact Nat.not_lt.2 hdepth h
  · exact hnew h
  · exact h hold

theorem policy_exact_or_deeper (old new : Data) (h : new.bound = .exact ∨ new.depth > old.depth) :
    shouldOverwrite old new = true :=
  (shouldOverwrite_iff old new).2 (h.elim (fun h => .inr (.inr (.inl h))) (fun h => .inr (.inl h)))

theorem get_new (mb : Nat) (k : BB) : (TT.new mb).get k = none :=
  get_of_slot_none _ k HashMap.getElem?_empty

theorem reset_empty (t : Table) (k : BB) : t.reset.get k = none :=
  get_of_slot_none _ k HashMap.getElem?_empty

theorem reset_counters (t : Table) : t.reset.occupied = 0 ∧ t.reset.generation = 0 := ⟨rfl, rfl⟩

theorem resize_empty (t : Table) (mb : Nat) (h : t.sizeMb ≠ mb) (k : BB) :
    (t.resize mb).get k = none ∧ (t.resize mb).occupied = 0 ∧ (t.resize mb).generation = 0
      ∧ (t.resize mb).n = entriesFor mb := by
  unfold Table.resize
  rw [if_neg h]
  exact ⟨get_new mb k, rfl, rfl, rfl⟩

/-- after `ucinewgame` the table is the table of a freshly started engine (C12) -/
theorem reset_is_new (t : Table) (h : WF t) : t.reset = TT.new t.sizeMb := by
  unfold Table.reset TT.new TT.empty
  rw [← h.size_ok]

theorem hashfull_spec (t : Table) (h : WF t) (hn : t.n ≠ 0) :
    t.hashfullExact = 1000 * t.slots.size / t.n := by
  unfold Table.hashfullExact
  rw [if_neg hn, h.occ_ok]

theorem entries_per_mb (mb : Nat) : entriesFor mb = mb * 65536 := by
  unfold entriesFor entrySize; omega

theorem wf_new (mb : Nat) : WF (TT.new mb) := by
  refine ⟨rfl, ?_, ?_, by simp [TT.new, TT.empty]⟩
  · intro i e h; simp [TT.new, TT.empty] at h
  · simp [TT.new, TT.empty]

theorem wf_reset (t : Table) (h : WF t) : WF t.reset :=
  reset_is_new t h ▸ wf_new t.sizeMb

theorem wf_resize (t : Table) (mb : Nat) (h : WF t) : WF (t.resize mb) := by
  unfold Table.resize
  split
  · exact h
  · exact wf_new mb

theorem wf_newGeneration (t : Table) (h : WF t) : WF t.newGeneration :=
  ⟨h.size_ok, h.slot_ok, h.occ_ok, Nat.mod_lt _ (by decide)⟩

theorem wf_insert (t : Table) (k : BB) (d : Data) (h : WF t) : WF (t.insert k d) := by
  by_cases ha : admitted t k d
  · rw [insert_of_admitted t k d ha]
    refine ⟨h.size_ok, ?_, ?_, h.gen_ok⟩
    · intro i e he
      simp only [HashMap.getElem?_insert] at he
      split at he
      · rename_i hi
        have : t.idx k = i := by simpa using hi
        cases he
        exact ⟨this ▸ idx_lt t k ha.1, this ▸ rfl⟩
      · exact h.slot_ok i e he
    · simp only [HashMap.size_insert, h.occ_ok]
  · rw [insert_of_not_admitted t k d ha]
    exact h

inductive Op
  | insert (k : BB) (d : Data)
  | newGeneration
  | reset
  | resize (mb : Nat)

def apply (t : Table) : Op → Table
  | .insert k d => t.insert k d
  | .newGeneration => t.newGeneration
  | .reset => t.reset
  | .resize mb => t.resize mb

theorem wf_apply (t : Table) (op : Op) (h : WF t) : WF (apply t op) := by
  cases op with
  | insert k d => exact wf_insert t k d h
  | newGeneration => exact wf_newGeneration t h
  | reset => exact wf_reset t h
  | resize mb => exact wf_resize t mb h

theorem wf_run (mb : Nat) (ops : List Op) : WF (ops.foldl apply (TT.new mb)) := by
  suffices ∀ t, WF t → WF (ops.foldl apply t) from this _ (wf_new mb)
  induction ops with
  | nil => intro t h; exact h
  | cons op ops ih => intro t h; exact ih _ (wf_apply t op h)

/-- non-vacuity: a colliding pair on a 1 MB table, the stale one gives way -/
example : admitted ((TT.new 1).insert 5#64 ⟨.exact, 10, 3, 0, none⟩) (65541#64) ⟨.upper, 1, 1, 1, none⟩ := by
  refine ⟨by simp [TT.new, TT.empty, Table.insert, entriesFor, entrySize],
    Or.inr ⟨⟨5#64, ⟨.exact, 10, 3, 0, none⟩⟩, ?_, by decide⟩⟩
  simp [TT.new, TT.empty, Table.insert, Table.idx, entriesFor, entrySize]

end Tcheran.Props.C19
#print axioms Tcheran.Props.C19.idx_lt
#print axioms Tcheran.Props.C19.get_of_slot_none
#print axioms Tcheran.Props.C19.get_sound
#print axioms Tcheran.Props.C19.insert_of_admitted
#print axioms Tcheran.Props.C19.insert_of_not_admitted
#print axioms Tcheran.Props.C19.get_insert_rejected
#print axioms Tcheran.Props.C19.get_insert_of_admitted
#print axioms Tcheran.Props.C19.get_insert_admitted
#print axioms Tcheran.Props.C19.get_insert_cases
#print axioms Tcheran.Props.C19.insert_other_key
#print axioms Tcheran.Props.C19.shouldOverwrite_iff
#print axioms Tcheran.Props.C19.policy_stale
#print axioms Tcheran.Props.C19.policy_exact_kept
#print axioms Tcheran.Props.C19.policy_exact_or_deeper
#print axioms Tcheran.Props.C19.get_new
#print axioms Tcheran.Props.C19.reset_empty
#print axioms Tcheran.Props.C19.reset_counters
#print axioms Tcheran.Props.C19.resize_empty
#print axioms Tcheran.Props.C19.reset_is_new
#print axioms Tcheran.Props.C19.hashfull_spec
#print axioms Tcheran.Props.C19.entries_per_mb
#print axioms Tcheran.Props.C19.wf_new
#print axioms Tcheran.Props.C19.wf_reset
#print axioms Tcheran.Props.C19.wf_resize
#print axioms Tcheran.Props.C19.wf_newGeneration
#print axioms Tcheran.Props.C19.wf_insert
#print axioms Tcheran.Props.C19.wf_apply
#print axioms Tcheran.Props.C19.wf_run
