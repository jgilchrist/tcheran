import TcheranVerif.Model.Time
/-!
# C14 — time allocation (theorems over the exact model, constants regenerated from `/repo`)

Durations are nanoseconds in `Nat`. The Rust computes the products in `f32`; the model is exact
and the correspondence compares within the `f32` ε (DESIGN §5 C14), so these inequalities hold
for the code up to a relative 2⁻²³ per multiplication. The wall-clock sentence of C14 (the move is
returned before the flag falls) is runtime behaviour, not proved: partial.
-/
namespace Tcheran.Props.C14
open Tcheran Tcheran.Time

theorem max_time_frac : Gen.p_max_time_per_move = (5, 10) := by decide
theorem soft_frac : Gen.p_soft_time_multiplier = (75, 100) := by decide
theorem hard_frac : Gen.p_hard_time_multiplier = (300, 100) := by decide

/-- the per-move cap is at most half of the time it is computed from (needs only `MAX ≤ 1/2`) -/
theorem cap_le_half (r : Nat) : mulFrac r Gen.p_max_time_per_move ≤ r / 2 := by
  rw [max_time_frac]; unfold mulFrac; simp only; omega

/-- what `limits` computes from clocks: both limits are fractions of one per-move `base`, cut off at
    one `cap`, the `MAX` share of what remains after the overhead -/
theorem limits_clocks (white : Bool) (c : Clocks) (oh s h : Nat) (hl : limits white (.clocks c) oh = some (s, h)) :
    ∃ base cap,
      cap = mulFrac (max ((if white then c.wtime else c.btime).getD 0 - oh * 1000000) (oh * 1000000))
        Gen.p_max_time_per_move ∧
      s = min (mulFrac base Gen.p_soft_time_multiplier) cap ∧
      h = min (mulFrac base Gen.p_hard_time_multiplier) cap := by
  unfold limits at hl
  simp only at hl
  split at hl
  · cases hl
  · simp only [Option.some.injEq, Prod.mk.injEq] at hl
    exact ⟨_, _, rfl, hl.1.symm, hl.2.symm⟩

theorem soft_le_hard (white : Bool) (tc : Control) (oh s h : Nat)
    (hl : limits white tc oh = some (s, h)) : s ≤ h := by
  cases tc with
  | infinite => cases hl; exact Nat.le_refl _
  | exact t => cases hl; exact Nat.le_refl _
  | clocks c =>
    obtain ⟨base, cap, -, rfl, rfl⟩ := limits_clocks white c oh s h hl
    rw [soft_frac, hard_frac]
    unfold mulFrac
    simp only
    omega

/-- whatever increment and moves-to-go -/
theorem hard_le_half (white : Bool) (c : Clocks) (ohMs r s h : Nat)
    (hr : (if white then c.wtime else c.btime) = some r)
    (hoh : 2 * (ohMs * 1000000) ≤ r)
    (hl : limits white (.clocks c) ohMs = some (s, h)) : h ≤ (r - ohMs * 1000000) / 2 := by
  obtain ⟨base, cap, hcap, -, rfl⟩ := limits_clocks white c ohMs s h hl
  rw [hr, Option.getD_some, Nat.max_eq_left (by omega)] at hcap
  have := cap_le_half (r - ohMs * 1000000)
  omega

theorem movetime_exact (white : Bool) (t oh : Nat) : limits white (.exact t) oh = some (t, t) := rfl

/-- the computation panics (division by zero) only for `movestogo 0`, which the property excludes -/
theorem limits_total (white : Bool) (c : Clocks) (oh : Nat) (h : c.movestogo ≠ some 0) :
    ∃ s hd, limits white (.clocks c) oh = some (s, hd) := by
  unfold limits
  simp only
  cases hm : c.movestogo with
  | none => exact ⟨_, _, rfl⟩
  | some m =>
    cases m with
    | zero => exact absurd hm h
    | succ k => exact ⟨_, _, rfl⟩

/-- non-vacuity: 60 s + 1 s increment, no moves-to-go, 10 ms overhead -/
example : limits true (.clocks ⟨some 60000000000, some 60000000000, some 1000000000, some 1000000000, none⟩) 10
    = some (1859752500, 7439010000) := by decide

end Tcheran.Props.C14
#print axioms Tcheran.Props.C14.cap_le_half
#print axioms Tcheran.Props.C14.limits_clocks
#print axioms Tcheran.Props.C14.soft_le_hard
#print axioms Tcheran.Props.C14.hard_le_half
#print axioms Tcheran.Props.C14.movetime_exact
#print axioms Tcheran.Props.C14.limits_total
#print axioms Tcheran.Props.C14.max_time_frac
#print axioms Tcheran.Props.C14.soft_frac
#print axioms Tcheran.Props.C14.hard_frac
