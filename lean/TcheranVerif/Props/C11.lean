import TcheranVerif.Model.Draw
import TcheranVerif.Proofs.Bits
import TcheranVerif.Proofs.GameInv
/-!
# C11 — repetition, fifty-move and dead-material draws

* `repeated_exact` — the engine compares the current key with the keys of the last
  `halfmove_clock` history entries; if those entries record, in order, the keys of the earlier
  positions of the game and the key is injective on the positions involved (the 64-bit assumption,
  explicit), this is exactly "an identical position (placement, side, rights, e.p. target) occurred
  since the last capture or pawn move". Works for FEN starts with a non-zero clock and no history
  (`take` of a short list).
* **`repeated_along_game`** — discharges that hypothesis: along every game of legal moves from a legal start
  (`Game::from_state`: empty history, key and accumulators in step) the history stack records entry for entry
  the from-scratch keys of the positions the game went through (`Proofs/GameInv.game_history`), so the
  engine's verdict at the reached position **is** the rules' — under the one assumption that remains, stated
  in the theorem: the 64-bit key does not confuse the current position with a different earlier position
  *of this game*.
* `repeated_window` — entries older than the clock are never consulted.
* `fifty_exact` — the fifty-move verdict is `clock ≥ 100 ∧ a legal move exists` relative to the
  engine's generator; `fifty_rules` composes it with C01's `generate_exact`: in every legal position the
  verdict is the rules' (`clock ≥ 100` and the side to move has a legal move).
* `insuffCounts_spec` (`insufficient_*`, `sufficient_*`) — the material rule as a function of piece counts: true
  for bare kings and for king + one minor v king; false whenever a pawn, rook or queen is present or more than
  two minor pieces remain; `material_agrees` links the counts to the board (`count_partition`, view consistency):
  on every consistent board with two kings the engine's verdict is what C11 demands wherever it speaks.
Search-internal null moves push a history entry without advancing the clock, so the window is then
one entry short per null move: soundness only, not claimed (C11 quantifies over game histories).
-/
namespace Tcheran.Props.C11
open Tcheran

theorem any_take_map {α β} (l : List α) (f : α → β) (p : β → Bool) (n : Nat) :
    ((l.map f).take n).any p = (l.take n).any (fun a => p (f a)) := by
  rw [← List.map_take, List.any_map]
  rfl

theorem repeated_exact (g : Game) (cur : Rules.Pos) (earlier : List Rules.Pos) (keyOf : Rules.Pos → BB)
    (hclock : g.halfmove = cur.halfmove)
    (hkeys : g.history.map (·.zobrist) = earlier.map keyOf)
    (hcur : g.zobrist = keyOf cur)
    (hinj : ∀ p ∈ earlier, keyOf p = keyOf cur ↔ Rules.samePosition cur p = true) :
    g.isRepeated = Rules.isRepeated cur earlier := by
  unfold Game.isRepeated Rules.isRepeated
  rw [← any_take_map g.history (·.zobrist) (· == g.zobrist), hkeys, any_take_map, hclock, hcur, Bool.eq_iff_iff,
    List.any_eq_true, List.any_eq_true]
  exact exists_congr fun p => and_congr_right fun hp => by
    rw [beq_iff_eq]
    exact hinj p (List.mem_of_mem_take hp)

theorem repeated_window (g : Game) (extra : List History) :
    ({ g with history := g.history.take g.halfmove ++ extra } : Game).isRepeated
      = ({ g with history := g.history.take g.halfmove } : Game).isRepeated ∨ g.history.length < g.halfmove := by
  by_cases h : g.history.length < g.halfmove
  · exact Or.inr h
  · left
    unfold Game.isRepeated
    simp only
    have hl : (g.history.take g.halfmove).length = g.halfmove := by
      rw [List.length_take]; omega
    rw [List.take_append_of_le_length (by omega), List.take_take]

theorem fifty_exact (g : Game) (ms : List Move) (h : generateLegal g = some ms) :
    g.isFifty = some (decide (g.halfmove ≥ 100) && !ms.isEmpty) := by
  unfold Game.isFifty
  by_cases hc : g.halfmove ≥ 100
  · simp [hc, h]
  · simp [hc]

theorem fifty_rules (T : SliderTables) (g : Game) (hc : g.board.Consistent)
    (hl : Rules.legalPos (Rules.ofGame g) = true) (ms : List Move) (h : generateLegal g = some ms) :
    g.isFifty = some (Rules.isFifty (Rules.ofGame g)) := by
  rw [fifty_exact g ms h]
  obtain ⟨k, hk⟩ := posH_of_legal g hc hl
  have h3 := generateLegal_some T g k hk ms h
  have hemp : ms.isEmpty = (Rules.legalMoves (Rules.ofGame g)).isEmpty := by
    rw [Bool.eq_iff_iff, List.isEmpty_iff, List.isEmpty_iff, List.eq_nil_iff_forall_not_mem,
      List.eq_nil_iff_forall_not_mem]
    exact forall_congr' fun m => not_congr (h3 m)
  unfold Rules.isFifty
  rw [hemp]
  rfl

theorem fifty_below (g : Game) (h : g.halfmove < 100) : g.isFifty = some false := by
  unfold Game.isFifty
  rw [if_neg (by omega)]

/-- the material rule of `is_stalemate_by_insufficient_material` as a function of counts -/
def insuffCounts (n nk nb lightB : Nat) (oneEach kingInCorner kingOnEdge : Bool) : Bool :=
  if n == 2 then true
  else if n == 3 then decide (nk + nb > 0)
  else if n == 4 then
    (nk == 2 && !kingOnEdge) || (nb == 2 && (lightB != 1 || (oneEach && !kingInCorner)))
      || (nk == 1 && nb == 1 && oneEach && !kingInCorner)
  else false

theorem insufficient_bare_kings (lb : Nat) (a b c : Bool) : insuffCounts 2 0 0 lb a b c = true := rfl

/-- two kings, `nk` knights, `nb` bishops and `heavy` pawns, rooks and queens; only the two-minor case looks at
anything else -/
theorem insuffCounts_spec (nk nb heavy lb : Nat) (a b c : Bool) :
    (0 < heavy ∨ 2 < nk + nb → insuffCounts (2 + nk + nb + heavy) nk nb lb a b c = false) ∧
    (heavy = 0 → nk + nb ≤ 1 → insuffCounts (2 + nk + nb + heavy) nk nb lb a b c = true) := by
  unfold insuffCounts
  simp only [beq_iff_eq]
  constructor
  · intro h
    split
    · omega
    · split
      · rw [decide_eq_false_iff_not]; omega
      · split
        · have h1 : nk ≠ 2 := by omega
          have h2 : nb ≠ 2 := by omega
          have h3 : ¬ (nk = 1 ∧ nb = 1) := by omega
          simp [h1, h2, h3]
        · rfl
  · intro h0 h1
    split
    · rfl
    · rw [if_pos (by omega), decide_eq_true_iff]; omega

theorem insufficient_one_minor (nk nb lb : Nat) (a b c : Bool) (h : nk + nb = 1) :
    insuffCounts 3 nk nb lb a b c = true :=
  (show 2 + nk + nb + 0 = 3 by omega) ▸ (insuffCounts_spec nk nb 0 lb a b c).2 rfl (by omega)

theorem sufficient_three_minors (n nk nb heavy lb : Nat) (a b c : Bool) (hn : n = 2 + nk + nb + heavy)
    (hm : nk + nb ≥ 3) : insuffCounts n nk nb lb a b c = false :=
  hn ▸ (insuffCounts_spec nk nb heavy lb a b c).1 (Or.inr hm)

theorem sufficient_with_heavy (n nk nb heavy lb : Nat) (a b c : Bool) (hn : n = 2 + nk + nb + heavy)
    (hh : heavy ≥ 1) : insuffCounts n nk nb lb a b c = false :=
  hn ▸ (insuffCounts_spec nk nb heavy lb a b c).1 (Or.inl hh)

theorem count_or_pos (a b : BB) : (a ||| b != 0#64) = decide (BB.count a + BB.count b > 0) := by
  rw [Bool.eq_iff_iff, bne_iff_ne, decide_eq_true_iff, Ne, BitVec.or_eq_zero_iff, ← count_eq_zero_iff,
    ← count_eq_zero_iff]
  omega

theorem isInsufficient_eq (g : Game) :
    g.isInsufficient = insuffCounts (BB.count g.board.occupancy) (BB.count g.board.knights)
      (BB.count g.board.bishops) (BB.count (g.board.bishops &&& BB.lightSquares))
      (BB.count (g.board.occFor g.player) == 2) ((g.board.kings &&& BB.corners) != 0#64)
      ((g.board.kings &&& BB.edges) != 0#64) := by
  unfold Game.isInsufficient insuffCounts
  simp only
  rw [count_or_pos]

theorem filter_length_split {α} (l : List α) (t p q : α → Bool) (h : ∀ x, t x = (p x || q x))
    (hd : ∀ x, ¬ (p x = true ∧ q x = true)) :
    (l.filter t).length = (l.filter p).length + (l.filter q).length := by
  induction l with
  | nil => rfl
  | cons x xs ih =>
    simp only [List.filter_cons]
    rw [h x]
    cases hp : p x <;> cases hq : q x
    · simp [ih]
    · simp [ih]; omega
    · simp [ih]; omega
    · exact absurd ⟨hp, hq⟩ (hd x)

theorem count_kind (b : Board) (hc : b.Consistent) (k : PieceKind) :
    BB.count (b.byKind k) = Rules.count b.squares (fun pc => pc.kind == k) := by
  unfold BB.count BB.toList Rules.count
  congr 1
  apply List.filter_congr
  intro s _
  rw [hc.1 k s]
  show _ = (b.pieceAt s).any _
  cases b.pieceAt s with
  | none => simp
  | some pc =>
    simp only [Option.map_some, Option.some.injEq, Option.any_some]
    cases hk : (pc.kind == k) <;> simp_all

theorem count_occ (b : Board) (hc : b.Consistent) :
    BB.count b.occupancy = Rules.count b.squares (fun _ => true) := by
  unfold BB.count BB.toList Rules.count
  congr 1
  apply List.filter_congr
  intro s _
  rw [mem_occupancy b hc s]
  unfold occOf
  cases Rules.at' b.squares s <;> rfl

theorem count_or (b : Rules.RBoard) (p q : Piece → Bool) (hd : ∀ pc, ¬ (p pc = true ∧ q pc = true)) :
    Rules.count b (fun pc => p pc || q pc) = Rules.count b p + Rules.count b q := by
  unfold Rules.count
  apply filter_length_split
  · intro x; cases Rules.at' b x <;> rfl
  · intro x; cases Rules.at' b x with
    | none => simp
    | some pc => exact hd pc

theorem count_partition (sq : Rules.RBoard) :
    Rules.count sq (fun _ => true) =
      Rules.count sq (fun pc => pc.kind == .king) + Rules.count sq (fun pc => pc.kind == .knight) +
      Rules.count sq (fun pc => pc.kind == .bishop) +
      Rules.count sq (fun pc => pc.kind == .pawn || pc.kind == .rook || pc.kind == .queen) := by
  have hall : (fun _ : Piece => true) = fun pc => ((pc.kind == .king || pc.kind == .knight) || pc.kind == .bishop) ||
      (pc.kind == .pawn || pc.kind == .rook || pc.kind == .queen) :=
    funext fun ⟨k, _⟩ => by cases k <;> rfl
  rw [hall, count_or, count_or, count_or]
  -- left over: the classes split off are pairwise disjoint
  all_goals
    intro ⟨k, _⟩
    cases k <;> simp

theorem material_agrees (g : Game) (hc : g.board.Consistent)
    (hk : Rules.count g.board.squares (fun pc => pc.kind == .king) = 2) (b : Bool)
    (hd : Rules.insufficientDemand (Rules.ofGame g) = some b) : g.isInsufficient = b := by
  have hkn : BB.count g.board.knights = _ := count_kind g.board hc .knight
  have hbi : BB.count g.board.bishops = _ := count_kind g.board hc .bishop
  rw [isInsufficient_eq, count_occ g.board hc, count_partition, hk, hkn, hbi]
  -- the demand written out, so that its `Decidable` instances are about `g.board.squares` and `rw` goes under them
  have hd2 : (if (decide (Rules.count g.board.squares (fun pc => pc.kind == .pawn || pc.kind == .rook || pc.kind == .queen) > 0) ||
        decide (Rules.count g.board.squares (fun pc => pc.kind == .knight || pc.kind == .bishop) > 2)) = true then some false
      else if Rules.count g.board.squares (fun pc => pc.kind == .knight || pc.kind == .bishop) ≤ 1 then some true
      else none) = some b := hd
  rw [count_or _ (fun pc => pc.kind == .knight) (fun pc => pc.kind == .bishop) (fun ⟨k, _⟩ => by cases k <;> simp)] at hd2
  generalize Rules.count g.board.squares (fun pc => pc.kind == .pawn || pc.kind == .rook || pc.kind == .queen) = heavy at hd2 ⊢
  generalize Rules.count g.board.squares (fun pc => pc.kind == .knight) = nk at hd2 ⊢
  generalize Rules.count g.board.squares (fun pc => pc.kind == .bishop) = nb at hd2 ⊢
  obtain ⟨hF, hT⟩ := insuffCounts_spec nk nb heavy (BB.count (g.board.bishops &&& BB.lightSquares))
    (BB.count (g.board.occFor g.player) == 2) ((g.board.kings &&& BB.corners) != 0#64)
    ((g.board.kings &&& BB.edges) != 0#64)
  split at hd2
  · rename_i h1
    cases hd2
    exact hF (by simpa using h1)
  · rename_i h1
    simp only [Bool.or_eq_true, decide_eq_true_eq, not_or, Nat.not_lt] at h1
    split at hd2
    · rename_i h2
      cases hd2
      exact hT (by omega) h2
    · cases hd2

theorem repeated_along_game (c : Cfg) (g0 : Game) (ms : List Move) (pos' : Rules.Pos) (hs : Sync c g0)
    (h0 : g0.history = []) (hl : Rules.legalPos (Rules.ofGame g0) = true)
    (hp : LegalPath (Rules.ofGame g0) ms pos')
    (hinj : ∀ p ∈ trail (Rules.ofGame g0) ms [], posKey c p = posKey c pos' → Rules.samePosition pos' p = true) :
    ∃ g', makeMoves c g0 ms = some g' ∧ Rules.ofGame g' = pos' ∧
      g'.isRepeated = Rules.isRepeated pos' (trail (Rules.ofGame g0) ms []) := by
  obtain ⟨g', h1, h2, h3, h4⟩ := game_history c g0 ms pos' [] hs (ginv_of_legal _ hl) hp (by rw [h0]; rfl)
  refine ⟨g', h1, h2, ?_⟩
  refine repeated_exact g' pos' _ (posKey c) (by rw [← h2]; rfl) h4 (by rw [key_ofGame c g' h3, h2]) ?_
  intro p hp
  exact ⟨hinj p hp, fun h => (samePosition_key c pos' p h).symm⟩

/-- non-vacuity of `repeated_along_game`: a position built by `Game::from_state` (here
`7b/8/8/4Pp2/3K4/8/8/k7 w - -`, any key table) meets its three hypotheses about the start, and the empty
game is a legal path -/
def demoBoard : Board :=
  ((((Board.empty.setAt ⟨27, by decide⟩ ⟨.king, .white⟩).setAt ⟨0, by decide⟩ ⟨.king, .black⟩).setAt
    ⟨36, by decide⟩ ⟨.pawn, .white⟩).setAt ⟨37, by decide⟩ ⟨.pawn, .black⟩).setAt ⟨63, by decide⟩ ⟨.bishop, .black⟩

theorem demo_start (c : Cfg) :
    Sync c (Game.fromState c demoBoard .white Rights.none none 0 0) ∧
    (Game.fromState c demoBoard .white Rights.none none 0 0).history = [] ∧
    Rules.legalPos (Rules.ofGame (Game.fromState c demoBoard .white Rights.none none 0 0)) = true := by
  have hcons : demoBoard.Consistent := by
    unfold demoBoard
    refine Board.consistent_setAt _ _ _ (Board.consistent_setAt _ _ _ (Board.consistent_setAt _ _ _
      (Board.consistent_setAt _ _ _ (Board.consistent_setAt _ _ _ Board.consistent_empty ?_) ?_) ?_) ?_) ?_ <;>
      decide +kernel
  refine ⟨sync_fromState c demoBoard hcons .white Rights.none none 0 0, rfl, ?_⟩
  show Rules.legalPos ⟨demoBoard.squares, .white, Rights.none, none, 0, 0⟩ = true
  decide +kernel

/-- non-vacuity of `repeated_exact`'s shape: a two-entry history with the matching key first -/
example : ({ player := .white, board := Board.empty, rights := Rights.none, ep := none, halfmove := 2, plies := 2,
             zobrist := 7#64, inc := ⟨0, 0⟩,
             history := [⟨none, none, Rights.none, none, 0, 5#64, ⟨0, 0⟩⟩, ⟨none, none, Rights.none, none, 0, 7#64, ⟨0, 0⟩⟩] } : Game).isRepeated
    = true := by decide

end Tcheran.Props.C11
#print axioms Tcheran.Props.C11.any_take_map
#print axioms Tcheran.Props.C11.repeated_exact
#print axioms Tcheran.Props.C11.repeated_window
#print axioms Tcheran.Props.C11.fifty_exact
#print axioms Tcheran.Props.C11.fifty_rules
#print axioms Tcheran.Props.C11.fifty_below
#print axioms Tcheran.Props.C11.insufficient_bare_kings
#print axioms Tcheran.Props.C11.insuffCounts_spec
#print axioms Tcheran.Props.C11.insufficient_one_minor
#print axioms Tcheran.Props.C11.sufficient_with_heavy
#print axioms Tcheran.Props.C11.count_or
#print axioms Tcheran.Props.C11.sufficient_three_minors
#print axioms Tcheran.Props.C11.filter_length_split
#print axioms Tcheran.Props.C11.count_kind
#print axioms Tcheran.Props.C11.count_occ
#print axioms Tcheran.Props.C11.count_partition
#print axioms Tcheran.Props.C11.material_agrees
#print axioms Tcheran.Props.C11.count_or_pos
#print axioms Tcheran.Props.C11.isInsufficient_eq
#print axioms Tcheran.Props.C11.repeated_along_game
#print axioms Tcheran.Props.C11.demo_start
