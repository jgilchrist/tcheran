import TcheranVerif.Model.Search
import TcheranVerif.Proofs.SearchSound
import TcheranVerif.Proofs.MenCount
/-!
# C08 — mate announcements: score ↔ distance arithmetic, legal lines, mate born at checkmate (theorems);
the length of the announced line by oracle

`mate_in_moves` / `mated_in_moves`: the announced number of moves is the one a line of `p` plies ending in mate
corresponds to (`2N−1 = p` resp. `2|N| = p`, `line_length_of_announcement`). `tt_roundtrip`: storing a mate score relative to the position and
reading it back at the same ply returns the score.
**`reported_lines_legal`**: every line the search model reports, at every iteration, whatever the tables hold and
wherever it is stopped, is a non-empty `LegalLine` from the root, under the stated key-faithfulness assumption.
**`reported_depths`**: the reported depths are 1, 2, …, k with k at most the requested limit (the maximum search depth
when none is given).
**`mate_born_at_checkmate`** (`terminal_verdict` in `Proofs/SearchSound.lean`): the move loop of a node (fresh picker,
hash move legal or none — which `TTGood` guarantees) ends with no move searched only if the position has no legal
move; with the node's check verdict (= the rules', C01) the score then returned is `mated_in(plies)` exactly at a
checkmate, `0` exactly at a stalemate. **`static_scores_not_mate`**: no static evaluation (stand-pat value, leaf value
of quiescence) anywhere a search goes lies in the mate range (C16), so every mate score in the tree descends from
such a node.
NOT proved: that the *reported line* has the matching length (the propagation of the born score through table
cut-offs and the PV buffer; DESIGN App. B S6). It is checked on every info line of every iteration against the Rules
specification and by verbatim agreement with the search model.
-/
namespace Tcheran.Props.C08
open Tcheran Tcheran.Search

/-- a mate delivered in `p` plies (p odd for the mover) is announced as mate in `(p+1)/2` -/
theorem mate_in_moves (p : Nat) (hp : p < 100) : isMateInMoves (mateIn p) = some (((p : Int) + 1) / 2) := by
  unfold isMateInMoves mateIn
  rw [mate_consts.1, mate_consts.2]
  have h : (32000 : Int) - p > 31900 := by omega
  rw [if_pos h, Int.tdiv_eq_ediv_of_nonneg (by omega)]
  congr 1; omega

/-- being mated in `p` plies (p even) is announced as mate in `-(p/2)` -/
theorem mated_in_moves (p : Nat) (hp : p < 100) : isMateInMoves (matedIn p) = some (-((p : Int) / 2)) := by
  unfold isMateInMoves matedIn
  rw [mate_consts.1, mate_consts.2]
  have h1 : ¬ ((-32000 : Int) + p > 31900) := by omega
  have h2 : (-32000 : Int) + p < -31900 := by omega
  rw [if_neg h1, if_pos h2]
  have e : (-32000 : Int) - (-32000 + p) = -(p : Int) := by omega
  rw [e, Int.neg_tdiv, Int.tdiv_eq_ediv_of_nonneg (by omega)]

theorem line_length_of_announcement (p : Nat) :
    (p % 2 = 1 → 2 * (((p : Int) + 1) / 2) - 1 = p) ∧ (p % 2 = 0 → 2 * ((p : Int) / 2) = p) := by
  constructor <;> intro h <;> omega

/-- scores that are not in the mate range are reported as centipawns -/
theorem not_mate (v : Int) (h1 : -31900 ≤ v) (h2 : v ≤ 31900) : isMateInMoves v = none :=
  isMateInMoves_none v h1 h2

theorem tt_roundtrip (v : Int) (p : Nat) : fromRoot (fromPosition v p) p = v := by
  unfold fromRoot fromPosition
  rw [mate_consts.2]
  simp only
  repeat' split
  all_goals omega

/-- mate scores at any ply up to the maximum search depth fit `i16` -/
theorem mate_scores_in_range (p : Nat) (hp : p ≤ 255) : inI16 (mateIn p) = true ∧ inI16 (matedIn p) = true := by
  rw [inI16_iff, inI16_iff]
  unfold mateIn matedIn
  rw [mate_consts.1]
  omega

open Rules in
theorem reported_lines_legal (T : SliderTables) (U : Universe) (fuel : Nat) (g : Game) (tt : TT.Table)
    (history : Array Int) (depthLimit : Option Nat) (stopAt : Nat) (everyNode : Bool)
    (hr : U.R 0 g) (htt : TTGood U tt) :
    ∀ i ∈ (search fuel g tt history depthLimit stopAt everyNode).infos, i.pv ≠ [] ∧ LegalLine g i.pv :=
  (search_sound T U 0 fuel g tt history depthLimit stopAt everyNode hr htt).2.1

theorem reported_depths (fuel : Nat) (g : Game) (tt : TT.Table) (history : Array Int)
    (depthLimit : Option Nat) (stopAt : Nat) (everyNode : Bool) :
    (search fuel g tt history depthLimit stopAt everyNode).infos.map (·.depth) =
      List.range' 1 (search fuel g tt history depthLimit stopAt everyNode).infos.length ∧
    (search fuel g tt history depthLimit stopAt everyNode).infos.length ≤ depthLimit.getD Gen.maxSearchDepth :=
  (search_any fuel g tt history depthLimit stopAt everyNode).2

/-- a legal line can be played: the engine's `make_move` answers at every step -/
theorem legal_line_playable (g : Game) (m : Move) (rest : List Move) (h : LegalLine g (m :: rest)) :
    m ∈ Rules.legalMoves (Rules.ofGame g) ∧ ∃ g', Game.makeMove theCfg g m = some g' ∧ LegalLine g' rest := h

open Rules in
theorem mate_born_at_checkmate (T : SliderTables) (fuel : Nat) (g : Game) (hs : SInv g) (alpha0 beta : Int)
    (plies : Nat) (inCheck : Bool) (hchk : kingInCheck g.board g.player = some inCheck)
    (depth : Nat) (ev : Int) (nm : NodeMoves) (hnm : nodeMoves g = some nm)
    (prevBest : Option Move) (hpb : ∀ h, prevBest = some h → h ∈ legalMoves (ofGame g))
    (alpha : Int) (pv : List Move) (c : Search.Ctx) (b' : TT.Bound) (bm' : Option Move) (be' : Int) (pv' : List Move)
    (c' : Search.Ctx)
    (hloop : negamax.loop fuel g alpha0 beta plies inCheck depth ev nm 300 (Picker.new prevBest) alpha .upper none
        i16Min 0 pv c = (.ok (b', bm', be', 0), pv', c')) :
    isCheckmate (ofGame g) = inCheck ∧ isStalemate (ofGame g) = !inCheck ∧
    (finishNode g depth plies inCheck b' bm' be' 0 pv' c').res = .ok (if inCheck then matedIn plies else 0) := by
  have hno := terminal_verdict T hs hnm hpb hloop
  have hic : inCheck = Rules.inCheck g.board.squares g.player :=
    Option.some.inj (hchk.symm.trans (kingInCheck_sinv T g hs))
  refine ⟨?_, ?_, rfl⟩
  · unfold isCheckmate
    rw [hno]
    show (Rules.inCheck g.board.squares g.player && true) = inCheck
    rw [← hic, Bool.and_true]
  · unfold isStalemate
    rw [hno]
    show (!(Rules.inCheck g.board.squares g.player) && true) = !inCheck
    rw [← hic, Bool.and_true]

open Rules in
theorem static_scores_not_mate (T : SliderTables) (root : Game) (hs : Sync theCfg root)
    (hl : legalPos (ofGame root) = true) (n : Nat) (g : Game) (hr : ReachN root n g) :
    ∃ v, Eval.eval g = some v ∧ isMateInMoves v = none := by
  obtain ⟨v, hv, _, _, hm⟩ := reach_eval T root hs hl n g hr
  exact ⟨v, hv, hm⟩

example : isMateInMoves (mateIn 3) = some 2 := by decide
example : isMateInMoves (matedIn 4) = some (-2) := by decide

end Tcheran.Props.C08
#print axioms Tcheran.Props.C08.mate_in_moves
#print axioms Tcheran.Props.C08.mated_in_moves
#print axioms Tcheran.Props.C08.line_length_of_announcement
#print axioms Tcheran.Props.C08.not_mate
#print axioms Tcheran.Props.C08.tt_roundtrip
#print axioms Tcheran.Props.C08.mate_scores_in_range
#print axioms Tcheran.Search.mate_consts
#print axioms Tcheran.Props.C08.reported_lines_legal
#print axioms Tcheran.Props.C08.reported_depths
#print axioms Tcheran.Props.C08.legal_line_playable
#print axioms Tcheran.Props.C08.mate_born_at_checkmate
#print axioms Tcheran.Props.C08.static_scores_not_mate
